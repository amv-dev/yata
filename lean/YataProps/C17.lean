/-
  C17 — Time-series converters keep the information they claim to keep.

  * CollapseTimeframe (any linear ordered field, any period ≥ 1, any stream): emits exactly when
    the number of inputs is a multiple of the period, and then the aggregate of the last `period`
    inputs; the aggregate has the first open, highest high, lowest low, last close and summed
    volume (`C17_aggregate`, shared with the batch `collapse_timeframe`, which the correspondence run
    compares with the streaming method on every generated stream).
  * HeikinAshi: follows its recursion (C03) and maps valid candles to valid candles.
  * Renko, in exact rational arithmetic: reaching the boundary means at least one whole brick (so the
    `.max(1)` guard of the repaired code only acts against floating-point rounding), the new state is
    consistent, no brick is left pending after a rising emission, and the emitted blocks are `len`
    contiguous bricks of equal size relative to the base line, one direction, carrying in total the
    volume consumed since the previous emission.  "Never panics on a boundary price" is a property of
    the floating-point code; it is covered by the correspondence run with prices on / one ulp around
    the boundaries read from the implementation's own state.  The falling branch is the mirror image
    (`C17_renko_falling`).
-/
import YataProofs.Converters
import YataProofs.Numeric.Common
namespace Yata.C17
open Yata
variable {K : Type} [Field K] [LinearOrder K] [IsStrictOrderedRing K]

theorem C17_collapse_new (p : Nat) (c : Candle K) :
    (0 < p → ∃ s, CollapseTimeframe.new p c = .ok s ∧ CollapseTimeframe.Inv p [] s) ∧
    (CollapseTimeframe.new 0 c = .err .wrongMethodParameters) :=
  ⟨fun hp => CollapseTimeframe.new_spec p hp c, CollapseTimeframe.new_zero c⟩

theorem C17_collapse_step {p : Nat} {h : List (Candle K)} {s : CollapseTimeframe K} (x : Candle K)
    (hi : CollapseTimeframe.Inv p h s) :
    CollapseTimeframe.Inv p (h ++ [x]) (s.next x).2 ∧
    (s.next x).1 = (if p ∣ (h ++ [x]).length then aggregate (lastN p (h ++ [x])) else none) := by
  obtain ⟨hper, hlt, ⟨q, hlen⟩, hcur⟩ := hi
  have hcur' : some (CollapseTimeframe.accumulate s.current x) = aggregate (lastN (s.index + 1) (h ++ [x])) := by
    rw [show lastN (s.index + 1) (h ++ [x]) = lastN s.index h ++ [x] from lastN_append _ h [x] (by omega),
      aggregate_snoc, hcur]
  have hl : (h ++ [x]).length = q * p + s.index + 1 := by rw [List.length_append, hlen]; rfl
  have hd : p ∣ (h ++ [x]).length ↔ s.index + 1 = p := by rw [hl]; exact dvd_mul_add_succ_iff hlt
  by_cases he : s.index + 1 = p
  · have hn : s.next x = (some (CollapseTimeframe.accumulate s.current x), { s with current := none, index := 0 }) :=
      if_pos (he.trans hper.symm)
    rw [hn, if_pos (hd.2 he), hcur', he]
    exact ⟨{ period := hper, lt := Nat.zero_lt_of_lt hlt,
             len := ⟨q + 1, by rw [hl, Nat.add_mul, one_mul, Nat.add_assoc, he]; rfl⟩,
             cur := (congrArg aggregate List.drop_length).symm }, rfl⟩
  · have hn : s.next x =
        (none, { s with current := some (CollapseTimeframe.accumulate s.current x), index := s.index + 1 }) :=
      if_neg (hper ▸ he)
    rw [hn, if_neg (mt hd.1 he)]
    exact ⟨{ period := hper, lt := Nat.lt_of_le_of_ne hlt he, len := ⟨q, hl⟩, cur := hcur' }, rfl⟩

theorem C17_collapse_run (p : Nat) (hp : 0 < p) (c0 : Candle K) (xs : List (Candle K)) :
    ∃ s0 outs s', CollapseTimeframe.new p c0 = .ok s0 ∧
      runM (liftNext CollapseTimeframe.next) s0 xs = .ok (outs, s') ∧ outs.length = xs.length ∧
      ∀ i (hi : i < outs.length),
        outs[i] = (if p ∣ (i + 1) then aggregate (lastN p (xs.take (i + 1))) else none) := by
  obtain ⟨s0, outs, s', hn, hr, hlen, houts⟩ :=
    method_spec (CollapseTimeframe.new p c0) (liftNext CollapseTimeframe.next) (CollapseTimeframe.Inv p)
      (fun h => if p ∣ h.length then aggregate (lastN p h) else none) (CollapseTimeframe.new_spec p hp c0)
      (fun _ _ x hi => ⟨_, _, rfl, C17_collapse_step x hi⟩) xs
  refine ⟨s0, outs, s', hn, hr, hlen, fun i hi => ?_⟩
  rw [houts i hi, List.length_take, Nat.min_eq_left (by omega)]

theorem C17_aggregate (x : Candle K) (xs : List (Candle K)) :
    let r := xs.foldl Candle.add x
    r.open_ = x.open_ ∧ r.close = ((x :: xs).getLast (by simp)).close ∧
    r.high = (xs.map (·.high)).foldl max x.high ∧ r.low = (xs.map (·.low)).foldl min x.low ∧
    r.volume = x.volume + (xs.map (·.volume)).sum := Candle.foldl_add x xs

theorem C17_heikin_ashi_valid (s : HeikinAshi K) (c : Candle K) (hs : 0 < s.next_open)
    (hv : c.validateFinite = true) :
    (s.next c).1.validateFinite = true ∧ 0 < (s.next c).2.next_open ∧ (s.next c).1.volume = c.volume :=
  HeikinAshi.next_valid s c hs hv

theorem C17_heikin_ashi_init (c : Candle K) (hv : c.validateFinite = true) : 0 < (HeikinAshi.new c).next_open :=
  (c.ohlc4_mem hv).2.2

/-- started from a valid candle, on every stream of valid candles every output is a valid candle with its input's volume,
    closes at the input's ohlc4 and opens at the mean of the previous output's open and close -/
theorem C17_heikin_ashi_run (c0 : Candle K) (h0 : c0.validateFinite = true) (cs : List (Candle K))
    (hcs : ∀ c ∈ cs, c.validateFinite = true) :
    let outs := (HeikinAshi.run (HeikinAshi.new c0) cs).1
    outs.length = cs.length ∧
    (∀ i (hi : i < outs.length) (hj : i < cs.length), (outs[i]).validateFinite = true ∧ (outs[i]).volume = (cs[i]).volume ∧
      (outs[i]).close = (cs[i]).ohlc4) ∧
    (∀ i (hi : i + 1 < outs.length), (outs[i + 1]).open_ = ((outs[i]'(by omega)).open_ + (outs[i]'(by omega)).close) * (1 / ((2 : Nat) : K))) ∧
    (∀ (hi : 0 < outs.length), (outs[0]).open_ = c0.ohlc4) :=
  HeikinAshi.run_from (HeikinAshi.new c0) (C17_heikin_ashi_init c0 h0) cs hcs

theorem C17_renko_rising (s : Renko) (c : Candle ℚ) (h : Renko.Inv s) (hv : s.next_block_upper ≤ c.source s.src) :
    ∃ o, (s.next c).1 = some o ∧
      1 ≤ Renko.truncNat ((c.source s.src - s.last_block_upper) / s.last_block_upper / s.brick_size) ∧
      o.len = Renko.truncNat ((c.source s.src - s.last_block_upper) / s.last_block_upper / s.brick_size) ∧
      o.base_line = s.last_block_upper ∧ o.brick_size = s.brick_size ∧
      Renko.Inv (s.next c).2 ∧ (s.next c).2.volume = 0 ∧
      c.source s.src < (s.next c).2.next_block_upper ∧
      o.totalVolume = s.volume + c.volume := Renko.next_up s c h hv

/-! non-vacuity: a concrete Renko state (bricks of 1% around 100) satisfies the invariant and a
    price on the boundary satisfies the hypothesis of `C17_renko_rising` -/
example : Renko.Inv ⟨101, 99, 101 * (1 + 1 / 100), 99 * (1 - 1 / 100), 1 / 100, .close, 0⟩ ∧
    (101 * (1 + 1 / 100) : ℚ) ≤ (⟨0, 0, 0, 101 * (1 + 1 / 100), 1⟩ : Candle ℚ).source .close := by
  refine ⟨?_, by simp [Candle.source]⟩
  constructor <;> norm_num

theorem C17_renko_falling (s : Renko) (c : Candle ℚ) (h : Renko.Inv s) (hnu : ¬ s.next_block_upper ≤ c.source s.src)
    (hv : c.source s.src ≤ s.next_block_lower) (hpos : 0 < c.source s.src) :
    ∃ o, (s.next c).1 = some o ∧
      1 ≤ Renko.truncNat ((s.last_block_lower - c.source s.src) / s.last_block_lower / s.brick_size) ∧
      o.len = Renko.truncNat ((s.last_block_lower - c.source s.src) / s.last_block_lower / s.brick_size) ∧
      o.base_line = s.last_block_lower ∧ o.brick_size = -s.brick_size ∧
      (s.next c).2.last_block_upper = s.last_block_lower * (1 - s.brick_size * ((o.len - 1 : ℕ) : ℚ)) ∧
      (s.next c).2.last_block_lower = s.last_block_lower * (1 - s.brick_size * (o.len : ℚ)) ∧
      c.source s.src ≤ (s.next c).2.last_block_lower ∧
      Renko.Inv (s.next c).2 ∧ (s.next c).2.volume = 0 ∧
      o.totalVolume = s.volume + c.volume := Renko.next_down s c h hnu hv hpos

/-- an output is emitted exactly when the price has reached one of the two next boundaries (a price exactly on a boundary
    included), with at least one brick, and the volume balance holds -/
theorem C17_renko_step (s : Renko) (c : Candle ℚ) (h : Renko.Inv s) (hpos : 0 < c.source s.src) :
    Renko.Inv (s.next c).2 ∧ (s.next c).2.src = s.src ∧
    ((s.next c).1.isSome ↔ (s.next_block_upper ≤ c.source s.src ∨ c.source s.src ≤ s.next_block_lower)) ∧
    (∀ o, (s.next c).1 = some o → 1 ≤ o.len ∧ o.brick_size ≠ 0) ∧
    Renko.emitted (s.next c).1 + (s.next c).2.volume = s.volume + c.volume := Renko.next_step s c h hpos

/-- from the constructor, on every stream of candles whose source price is positive: the state stays consistent, every
    output has at least one brick, and no volume is lost (emitted + still pending = consumed) -/
theorem C17_renko_run (eps brick : ℚ) (src : Source) (c0 : Candle ℚ) (s0 : Renko) (he : 0 < eps) (hc0 : 0 < c0.source src)
    (h0 : Renko.new eps brick src c0 = .ok s0) (cs : List (Candle ℚ)) (hcs : ∀ k ∈ cs, 0 < k.source src) :
    Renko.Inv (Renko.run s0 cs).2 ∧
    (∀ o ∈ (Renko.run s0 cs).1, ∀ r, o = some r → 1 ≤ r.len) ∧
    (((Renko.run s0 cs).1.map Renko.emitted).sum + (Renko.run s0 cs).2.volume = (cs.map (·.volume)).sum) := by
  obtain ⟨hinv, hv0, rfl⟩ := Renko.new_inv eps brick src c0 s0 he hc0 h0
  have h := Renko.run_from s0 hinv cs hcs
  rwa [hv0, zero_add] at h

/-- the emitted blocks: `len` of them, contiguous, each of relative size `brick` w.r.t. the base line, one direction, equal
    volumes adding up to the consumed volume -/
theorem C17_renko_blocks (o : RenkoOut) (hlen : 1 ≤ o.len) :
    o.blocks.length = o.len ∧
    (∀ j, j + 1 < o.len → (o.block j).close = (o.block (j + 1)).open_) ∧
    (∀ j, (o.block j).close - (o.block j).open_ = o.brick_size * o.base_line) ∧
    (∀ j, (o.block j).volume = o.block_volume) ∧
    (o.blocks.map (·.volume)).sum = o.totalVolume ∧
    (o.block 0).open_ = o.base_line := by
  refine ⟨by simp [RenkoOut.blocks], ?_, ?_, fun _ => rfl, ?_, by simp [RenkoOut.block]⟩
  · intro j _; simp [RenkoOut.block]
  · intro j; simp only [RenkoOut.block]; push_cast; ring
  · simp only [RenkoOut.blocks, List.map_map, RenkoOut.totalVolume]
    have : (fun b : RenkoBlock => b.volume) ∘ o.block = fun _ => o.block_volume := rfl
    rw [this]
    simp [List.sum_replicate, mul_comm]

/-- the aggregate view of a step's bricks closes where its last brick closes and opens where its first opens -/
theorem C17_renko_aggregate (o : RenkoOut) (h : 0 < o.len) :
    o.close = (o.block (o.len - 1)).close ∧ (o.block 0).open_ = o.base_line := by
  unfold RenkoOut.close RenkoOut.block
  have e : ((o.len - 1 + 1 : Nat)) = o.len := by omega
  simp only [e]
  constructor
  · ring
  · simp

end Yata.C17

#print axioms Yata.C17.C17_collapse_new
#print axioms Yata.C17.C17_collapse_step
#print axioms Yata.C17.C17_collapse_run
#print axioms Yata.C17.C17_aggregate
#print axioms Yata.C17.C17_heikin_ashi_valid
#print axioms Yata.C17.C17_heikin_ashi_init
#print axioms Yata.C17.C17_heikin_ashi_run
#print axioms Yata.C17.C17_renko_rising
#print axioms Yata.C17.C17_renko_falling
#print axioms Yata.C17.C17_renko_step
#print axioms Yata.C17.C17_renko_run
#print axioms Yata.C17.C17_renko_blocks
#print axioms Yata.C17.C17_renko_aggregate
