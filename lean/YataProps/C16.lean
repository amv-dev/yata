/-
  C16 — Action is a consistent signed-strength algebra.

  Model: `YataModel/Action.lean` (513 values, strengths ≤ 255 = `Action.WF`) and
  `YataModel/F64.lean` (binary64 bit patterns in Nat arithmetic: NaN test, `x*255.0` with
  round-to-nearest-even, `round()` half away from zero, saturating `as u8`, `k/255.0`).

  Proved: totality (Lean functions are total; every result is well-formed), NaN ↦ None,
  saturation, sign preservation, ratio ∈ [-1,1], from(ratio a) = a for all 513 actions at the
  bit level, negation is an involution negating the ratio, `a - b` has ratio
  clamp(ratio a − ratio b), analog/sign follow the sign of the ratio, equality is an
  equivalence relation.
  NOT provable because false of the code (see `C16_cmp_eq_inconsistent`): "the ordering is
  consistent with equality" — `Buy(0) == Sell(0)` but `Buy(0) < Sell(0)`; the partial statement
  excludes exactly that pair. Recorded in KNOWN_FINDINGS.txt.
  Monotonicity of the f64 conversion is proved on the bit level (`C16_monotone`: for every pair of non-NaN bit patterns
  in the order of the floats, −0.0 = +0.0) and for the rational model with any monotone rounding (`C16_monotone_model`);
  the f32 conversion is validated (thorough tier: every f32 bit pattern, monotone in-process).
-/
import YataProofs.StrMono
namespace Yata.C16
open Yata Yata.Action

theorem C16_total_wf (b : Nat) : (F64.toAction b).WF := by
  cases h : F64.isNaN b
  · rw [F64.toAction_eq h, signed]
    split <;> exact F64.strength_le _ _
  · rw [F64.toAction_nan h]; trivial

theorem C16_nan_is_none {b : Nat} (h : F64.isNaN b = true) : F64.toAction b = .none := F64.toAction_nan h

theorem C16_sign_preserved {b : Nat} (h : F64.isNaN b = false) :
    (F64.sign b = true → ∃ v, F64.toAction b = .sell v) ∧ (F64.sign b = false → ∃ v, F64.toAction b = .buy v) := by
  rw [F64.toAction_eq h]
  exact ⟨fun hs => ⟨_, by rw [hs]; rfl⟩, fun hs => ⟨_, by rw [hs]; rfl⟩⟩

theorem C16_saturates {b : Nat} (h : F64.isNaN b = false) (he : F64.expo b ≥ 1023) :
    F64.toAction b = if F64.sign b then Action.sellAll else Action.buyAll := by
  simp [F64.toAction, h, F64.strength, he]

theorem C16_from_i8 (v : Int) :
    (v = 0 → ofI8 v = .none) ∧ (v > 0 → ofI8 v = buyAll) ∧ (v < 0 → ofI8 v = sellAll) :=
  ⟨fun h => if_pos h, fun h => (if_neg h.ne').trans (if_pos h), fun h => (if_neg h.ne).trans (if_neg h.not_gt)⟩

theorem C16_ratio_range {a : Action} (h : a.WF) : -1 ≤ a.ratio0 ∧ a.ratio0 ≤ 1 := by
  rw [wf_iff_sv] at h
  rw [ratio0_eq, le_div_iff₀ (by norm_num), div_le_iff₀ (by norm_num)]
  exact_mod_cast h

/-- `from(ratio(a)) = a` through the real float operations (the division `k/255.0` and the product `·255.0`, both with
    IEEE rounding), all 513 actions -/
theorem C16_from_ratio (a : Action) (h : a.WF) :
    (F64.ratioBits a).map F64.toAction = (match a with | .none => Option.none | a => some a) := by
  cases a with
  | none => rfl
  | buy k => exact congrArg some (F64.from_ratio_bits k h).1
  | sell k => exact congrArg some (F64.from_ratio_bits k h).2

theorem C16_neg_involution (a : Action) : a.neg.neg = a ∧ a.neg.ratio0 = -a.ratio0 :=
  ⟨by cases a <;> rfl, by rw [ratio0_eq, ratio0_eq, sv_neg, Int.cast_neg, neg_div]⟩

theorem C16_sub_ratio {a b : Action} (ha : a.WF) (hb : b.WF) :
    (a.sub b).WF ∧ (a.sub b).ratio0 = clamp (a.ratio0 - b.ratio0) := by
  constructor
  · rw [wf_iff_sv, sv_sub ha hb]; omega
  · rw [ratio0_eq, ratio0_eq, ratio0_eq, sv_sub ha hb, ← sub_div, ← Int.cast_sub, clamp_div]

theorem C16_analog_sign (a : Action) :
    (a.analog = 1 ↔ 0 < a.ratio0) ∧ (a.analog = -1 ↔ a.ratio0 < 0) ∧ (a.analog = 0 ↔ a.ratio0 = 0) ∧
    a.sign = (if a = .none then Option.none else some a.analog) := by
  refine ⟨?_, ?_, ?_, by cases a <;> simp [Action.sign]⟩ <;> rw [analog_eq_sign_sv, ratio0_eq]
  · rw [Int.sign_eq_one_iff_pos, div_pos_iff_of_pos_right (by norm_num), Int.cast_pos]
  · rw [Int.sign_eq_neg_one_iff_neg, div_lt_iff₀ (by norm_num), zero_mul, Int.cast_lt_zero]
  · rw [Int.sign_eq_zero_iff_zero, div_eq_zero_iff, Int.cast_eq_zero, or_iff_left (by norm_num)]

theorem C16_eq_equivalence :
    (∀ a : Action, a.eq a = true) ∧ (∀ a b : Action, a.eq b = true → b.eq a = true) ∧
    (∀ a b c : Action, a.eq b = true → b.eq c = true → a.eq c = true) := by
  refine ⟨fun a => ?_, fun a b h => ?_, fun a b c h1 h2 => ?_⟩ <;> rw [eq_iff] at *
  · exact ⟨Iff.rfl, rfl⟩
  · exact ⟨h.1.symm, h.2.symm⟩
  · exact ⟨h1.1.trans h2.1, h1.2.trans h2.2⟩

/-- the full consistency statement is false of the code: `Buy(0) == Sell(0)` but they are ordered `Less`, and no total
    order extending the derived one can repair it, since `Buy(0) < Buy(1) < None < Sell(0)` -/
theorem C16_cmp_eq_inconsistent :
    (buy 0).eq (sell 0) = true ∧ (buy 0).cmp (sell 0) = .lt ∧
    (buy 0).cmp (buy 1) = .lt ∧ (buy 1).cmp none = .lt ∧ none.cmp (sell 0) = .lt := by decide

/-- apart from the two zero-strength values of opposite sign, equal actions compare `Equal` -/
theorem C16_cmp_consistent_partial {a b : Action} (h : a.eq b = true)
    (hz : ¬ ((a = buy 0 ∧ b = sell 0) ∨ (a = sell 0 ∧ b = buy 0))) : a.cmp b = .eq := by
  rw [cmp_eq_iff]
  rcases a with x | _ | x <;> rcases b with y | _ | y <;> simp_all [eq_strength, eq_none]

/-- monotone: a larger float never converts to an action of smaller ratio (bit level, all 2^64 − NaN patterns) -/
theorem C16_monotone (b1 b2 : Nat) (n1 : F64.isNaN b1 = false) (n2 : F64.isNaN b2 = false) (h : F64.le b1 b2) :
    (F64.toAction b1).ratio0 ≤ (F64.toAction b2).ratio0 := by
  rw [F64.toAction_eq n1, F64.toAction_eq n2]
  apply signed_le
  unfold F64.le at h
  generalize F64.sign b1 = s1, F64.sign b2 = s2 at h ⊢
  cases s1 <;> cases s2 <;> simp only at h ⊢
  · exact F64.strength_mono_mag b1 b2 h
  · exact ⟨F64.strength_zero b1 h.1, F64.strength_zero b2 h.2⟩
  · exact F64.strength_mono_mag b2 b1 h

/-- monotone also in the rational model of the conversion, with any monotone rounding of the product (IEEE round-to-nearest
    is one); the sign bit is the sign of the number (`q < 0`; −0.0 and +0.0 both have ratio 0) -/
theorem C16_monotone_model (rne : Rat → Rat) (hm : ∀ a b : ℚ, a ≤ b → rne a ≤ rne b) (q1 q2 : ℚ) (h : q1 ≤ q2) :
    (ofRatWith rne (decide (q1 < 0)) q1).ratio0 ≤ (ofRatWith rne (decide (q2 < 0)) q2).ratio0 := by
  rw [ofRatWith_eq, ofRatWith_eq]
  have hc := clamp_mono h
  have mono : ∀ {x y : ℚ}, x ≤ y → roundHalfAway (rne (x * 255)) ≤ roundHalfAway (rne (y * 255)) :=
    fun hxy => roundHalfAway_mono (hm _ _ (mul_le_mul_of_nonneg_right hxy (by norm_num)))
  apply signed_le
  by_cases h1 : q1 < 0 <;> by_cases h2 : q2 < 0 <;> simp only [h1, h2, decide_true, decide_false]
  · -- both negative: the magnitudes are in the opposite order
    rw [abs_of_neg (clamp_neg_iff.2 h1), abs_of_neg (clamp_neg_iff.2 h2)]
    exact mono (neg_le_neg hc)
  · exact absurd (h.trans_lt h2) h1
  · rw [abs_of_nonneg (not_lt.1 (mt clamp_neg_iff.1 h1)), abs_of_nonneg (not_lt.1 (mt clamp_neg_iff.1 h2))]
    exact mono hc

/-! the order `F64.le` of `C16_monotone` and the well-formedness of `C16_sub_ratio` can be met; the conversion computes -/
example : F64.le 0xbfe0000000000000 0x3fd0000000000000 := by   -- −0.5 ≤ 0.25
  have h1 : F64.sign 0xbfe0000000000000 = true := by decide +kernel
  have h2 : F64.sign 0x3fd0000000000000 = false := by decide +kernel
  simp only [F64.le, h1, h2]
example : (buy 5).WF ∧ (sell 3).WF ∧ (buy 5).sub (sell 3) = buy 8 := by decide
example : F64.toAction 0x3fe0000000000000 = buy 128 := by decide +kernel   -- 0.5 ↦ round(127.5) = 128

end Yata.C16

#print axioms Yata.C16.C16_total_wf
#print axioms Yata.C16.C16_nan_is_none
#print axioms Yata.C16.C16_sign_preserved
#print axioms Yata.C16.C16_saturates
#print axioms Yata.C16.C16_from_i8
#print axioms Yata.C16.C16_ratio_range
#print axioms Yata.C16.C16_from_ratio
#print axioms Yata.C16.C16_neg_involution
#print axioms Yata.C16.C16_sub_ratio
#print axioms Yata.C16.C16_analog_sign
#print axioms Yata.C16.C16_eq_equivalence
#print axioms Yata.C16.C16_cmp_eq_inconsistent
#print axioms Yata.C16.C16_cmp_consistent_partial
#print axioms Yata.C16.C16_monotone
#print axioms Yata.C16.C16_monotone_model
