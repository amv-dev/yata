/-
  C13 — Serialized snapshots restore behaviourally identical instances.

  Only `Window` and `SMM` have hand-written (de)serialization (`Generated/Surface.lean`, regenerated
  from /repo/src on every run; `C13_serde_surface` fails if another impl or a `serde(skip…)` appears).
    * Window (model of C01): `deserialize (serialize w) = w` for every reachable window of every
      capacity (incl. the empty one), so all future outputs are identical; malformed data — oversized
      buffer, oldest-index outside the buffer — is rejected, and whatever is accepted is a consistent
      window (never an inconsistent instance).
    * SMM serializes its window only and rebuilds the sorted slice on the way back: the rebuilt slice
      is a sorted permutation of the window contents (`C13_smm_rebuild`), and for every invariant state it is the very
      slice the instance held, so the restored instance is the original one (`C13_smm_roundtrip`).
  Every other type derives Serialize/Deserialize: the property then reduces to `serde_derive` being a
  bijection on field lists and to float text round-trip in serde_json (both trusted); it is exercised
  by the correspondence run: every method and indicator, snapshot after 0…k steps at every ring phase,
  JSON round trip, original vs restored on a continuation, bit-identical.
-/
import YataProofs.SMM
import Generated.Surface
namespace Yata.C13
open Yata Yata.Window Yata.Generated
variable {α : Type} {P : Nat}

theorem C13_serde_surface :
    (serdeManual.map (fun t => t.2.1)).eraseDups = ["SMM", "Window"] ∧ serdeSkipped = [] := by decide

theorem C13_window_roundtrip {w : Window α} (h : Inv P w) (hP : 1 ≤ P) :
    deserialize P (serialize w) = .ok (.ok w) := deserialize_serialize h hP

theorem C13_window_rejects_malformed (buf : List α) (index : Nat) (hP : 1 ≤ P) :
    (∃ w, deserialize P (buf, index) = .ok (.ok w) ∧ Inv P w ∧
        toList w = buf.drop index ++ buf.take index) ∨
    ((∃ e, deserialize P (buf, index) = .error e) ∧
        (buf.length > P - 1 ∨ (buf.length ≤ index ∧ ¬ (buf = [] ∧ index = 0)))) :=
  deserialize_accepts buf index hP

/-- the slice rebuilt by `Deserialize for SMM` (`sort` of the window buffer) is sorted and holds
    exactly the window's values -/
theorem C13_smm_rebuild (l : List Nat) :
    (Spec.sort l).Pairwise (· ≤ ·) ∧ (Spec.sort l).Perm l :=
  ⟨pairwise_sort l, sort_perm l⟩

/-- SMM: the instance rebuilt from the serialized window equals the original instance (every invariant state; the cached
    middle indices are functions of the window length, established by the constructor: `SMM.new_indices`) -/
theorem C13_smm_roundtrip {β : Type} [LinearOrder β] [TotalCmp β] [TotalLike β] {s : SMM β} (h : SMM.Inv P s)
    (hh : s.half = s.window.len / 2)
    (hm : s.half_m1 = satSub (s.window.len / 2) (if s.window.len % 2 = 0 then 1 else 0)) :
    SMM.ofWindow s.window (s.window.buf.mergeSort (fun a b => decide (a ≤ b))) = s := by
  -- the slice and the rebuilt one are both sorted arrangements of the buffer, of which the contents are a rotation
  have hrot : (Window.toList s.window).Perm s.window.buf :=
    List.perm_append_comm.trans (by rw [List.take_append_drop])
  rw [← eq_sort_of_perm h.sorted (h.perm.trans hrot)]
  cases s
  simp only [SMM.ofWindow, SMM.mk.injEq, and_true] at *
  exact ⟨hh.symm, hm.symm⟩

example : (⟨[4, 5, 3], 2, 3, 2⟩ : Window Nat).serialize = ([4, 5, 3], 2) := rfl

end Yata.C13

#print axioms Yata.C13.C13_serde_surface
#print axioms Yata.C13.C13_window_roundtrip
#print axioms Yata.C13.C13_window_rejects_malformed
#print axioms Yata.C13.C13_smm_rebuild
#print axioms Yata.C13.C13_smm_roundtrip
