/-
  C11 — Indicator interface contract: result shape, dynamic dispatch and string setters.

  `Generated/IndicatorTable.lean` is regenerated from /repo/src/indicators/*.rs by
  tools/extract.py on every run (public fields and their types, the arms of `set()` with the field
  each one assigns, the tuple returned by `size()`, the arities of the two slices given to
  `IndicatorResult::new`, presence of `Default`).  The theorems below quantify over that table, so
  they are re-checked against what the code says now; a row the translator cannot read carries an
  `untranslated` entry and falsifies `C11_table_translated`.

  `name() = NAME`, the `Dyn` blanket impls, `validate(default)` and `init(default)` are forwarding
  glue / runtime facts: they are compared Rust-vs-Rust by the correspondence run (`indapi` suite).
-/
import Generated.IndicatorTable
namespace Yata.C11
open Yata.Generated

/-- model of `IndicatorResult::new(values_slice, signals_slice)`: both are truncated to `SIZE = 4` -/
def resultLength (nValues nSignals : Nat) : Nat × Nat := (min 4 nValues, min 4 nSignals)

def rowOk (r : IndicatorRow) : Bool :=
  r.untranslated.isEmpty && r.name.isSome && r.hasDefault

/-- every arm assigns the field named by its key, and the keys are exactly the public fields -/
def settersOk (r : IndicatorRow) : Bool :=
  r.setArms.all (fun a => a.field == some a.key) &&
  r.pubFields.all (fun f => r.setArms.any (fun a => a.key == f.1)) &&
  r.setArms.all (fun a => r.pubFields.any (fun f => f.1 == a.key)) &&
  (r.setArms.map (·.key)).Nodup

/-- `size()` equals the arities handed to `IndicatorResult::new` at every construction site, and
    both fit the fixed-size result (so the truncation never fires) -/
def shapeOk (r : IndicatorRow) : Bool :=
  match r.size with
  | none => false
  | some (v, s) =>
    v ≤ 4 && s ≤ 4 && !r.resultArities.isEmpty &&
    r.resultArities.all (fun a => a.1 == some v && a.2 == some s)

theorem C11_table_translated : indicatorTable.all rowOk = true := by decide +kernel

theorem C11_setters : indicatorTable.all settersOk = true := by decide +kernel

theorem C11_shape : indicatorTable.all shapeOk = true := by decide +kernel

/-- with arities ≤ 4 the result carries exactly the announced number of values and signals -/
theorem C11_result_length (v s : Nat) (hv : v ≤ 4) (hs : s ≤ 4) : resultLength v s = (v, s) := by
  simp [resultLength, Nat.min_eq_right hv, Nat.min_eq_right hs]

theorem C11_names_distinct : (indicatorTable.map (·.name)).Nodup := by decide +kernel

/-! non-vacuity: the table is not empty and contains the flagship indicators -/
example : indicatorTable.length ≥ 34 ∧ indicatorTable.any (fun r => r.config == "MACD") = true := by decide +kernel

end Yata.C11

#print axioms Yata.C11.C11_table_translated
#print axioms Yata.C11.C11_setters
#print axioms Yata.C11.C11_shape
#print axioms Yata.C11.C11_result_length
#print axioms Yata.C11.C11_names_distinct
