/-
  C02 — Sliding-window numeric methods equal their from-scratch definition.

  For every maximum `P` of PeriodType, every accepted length `n`, every construction value `v`
  and every input stream `xs`, in every linear ordered field `K`: the model of the method
  (`YataModel/Methods/*.lean`, tied to the Rust code by the correspondence run) constructed by
  `new n v` and fed `xs` returns at every step `i` the documented formula (`YataModel/Spec.lean`)
  evaluated from scratch on the last `n` values of `replicate n v ++ xs.take (i+1)`.

  Proved here: SMA, WMA, windowed Integral (the cumulative one is `C03_integral0`), Momentum, Derivative,
  RateOfChange, Past, StDev (the variance under its square root), LinearVolatility, MeanAbsDev, CCI,
  TRIMA, HMA, VWMA, windowed ADI, LinReg, Conv, MedianAbsDev, SWMA (length ≥ 2; length 1 returns its input) — every C02
  method.  Independently of the theorems the correspondence run compares Rust with the exact model *and* the model with the
  from-scratch spec on every generated step.
-/
import YataProofs.Numeric.StDev
import YataProofs.Numeric.LinVol
import YataProofs.Numeric.MeanAbsDev
import YataProofs.Numeric.Composite
import YataProofs.Numeric.LinReg
import YataProofs.Numeric.Conv
import YataProofs.Numeric.MedianAbsDev
import YataProofs.Numeric.SWMA
namespace Yata.C02
open Yata
variable {K : Type} [Field K] [LinearOrder K] [IsStrictOrderedRing K]

/-- the generic shape: constructed, runs without panic, one output per input, each equal to the spec -/
def Conforms {σ : Type} (new : Res σ) (next : σ → K → Except Panic (K × σ)) (spec : List K → K)
    (xs : List K) : Prop :=
  ∃ s0 outs s', new = .ok s0 ∧ runM next s0 xs = .ok (outs, s') ∧ outs.length = xs.length ∧
    ∀ i (hi : i < outs.length), outs[i] = spec (xs.take (i + 1))

theorem C02_sma {P n : Nat} (v : K) (hn0 : 0 < n) (hn : n ≤ P - 1) (xs : List K) :
    Conforms (SMA.new P n v) SMA.next (Spec.sma n v) xs :=
  SMA.run_spec v hn0 hn xs

theorem C02_wma {P n : Nat} (v : K) (hn0 : 0 < n) (hn : n ≤ P - 1) (xs : List K) :
    Conforms (WMA.new P n v) WMA.next (Spec.wma n v) xs :=
  WMA.run_spec v hn0 hn xs

theorem C02_integral {P n : Nat} (v : K) (hn0 : 0 < n) (hn : n ≤ P - 1) (xs : List K) :
    Conforms (Integral.new P n v) Integral.next (Spec.integral n v) xs := by
  apply windowed_spec v _ _ (fun hist s => Tracks P n s.window hist ∧ s.value = (lastN n hist).sum) List.sum
  · obtain ⟨w, hw, ht⟩ := Tracks.winNew (P := P) v hn
    exact ⟨⟨v * (n : K), w⟩, by simp [Integral.new, show n ≠ P by omega, hw, Res.bind], ht,
      by simp [lastN_history_nil, mul_comm]⟩
  · intro hist s x ⟨ht, hv⟩
    obtain ⟨old, w', hp, ht', rest, hl, hl'⟩ := ht.slide hn0 x
    have hval : s.value + x - old = (lastN n (hist ++ [x])).sum := by rw [hv, hl, hl', sum_slide old]; ring
    exact ⟨_, ⟨s.value + x - old, w'⟩, by simp [Integral.next, ht.isEmpty hn0, hp], ⟨ht', hval⟩, hval⟩

theorem C02_momentum {P n : Nat} (v : K) (hn0 : 0 < n) (hn : n ≤ P - 1) (xs : List K) :
    Conforms (Momentum.new P n v) Momentum.next (Spec.momentum n v) xs := by
  apply method_spec _ _ (fun h s => Tracks P n s.window (history n v h))
  · obtain ⟨w, hw, ht⟩ := Tracks.winNew (P := P) v hn
    exact ⟨⟨w⟩, by simp [Momentum.new, not_zero_or_max hn0 hn, hw, Res.bind], ht⟩
  · intro h s x ht
    obtain ⟨old, w', hp, ht', hpast⟩ := ht.past hn0 x
    exact ⟨x - old, ⟨w'⟩, by simp [Momentum.next, hp], ht', by simp [Spec.momentum, cur_snoc, hpast]⟩

theorem C02_derivative {P n : Nat} (v : K) (hn0 : 0 < n) (hn : n ≤ P - 1) (xs : List K) :
    Conforms (Derivative.new P n v) Derivative.next (Spec.derivative n v) xs := by
  apply method_spec _ _ (fun h s => Tracks P n s.window (history n v h) ∧ s.divider = 1 / (n : K))
  · obtain ⟨w, hw, ht⟩ := Tracks.winNew (P := P) v hn
    exact ⟨⟨1 / (n : K), w⟩, by simp [Derivative.new, not_zero_or_max hn0 hn, hw, Res.bind], ht, rfl⟩
  · intro h s x ⟨ht, hd⟩
    obtain ⟨old, w', hp, ht', hpast⟩ := ht.past hn0 x
    exact ⟨(x - old) * s.divider, { s with window := w' }, by simp [Derivative.next, hp], ⟨ht', hd⟩,
      by simp [Spec.derivative, cur_snoc, hpast, hd, div_eq_mul_inv]⟩

theorem C02_rate_of_change {P n : Nat} (v : K) (hn0 : 0 < n) (hn : n ≤ P - 1) (xs : List K) :
    Conforms (RateOfChange.new P n v) RateOfChange.next (Spec.roc n v) xs := by
  apply method_spec _ _ (fun h s => Tracks P n s.window (history n v h))
  · obtain ⟨w, hw, ht⟩ := Tracks.winNew (P := P) v hn
    exact ⟨⟨w⟩, by simp [RateOfChange.new, not_zero_or_max hn0 hn, hw, Res.bind], ht⟩
  · intro h s x ht
    obtain ⟨old, w', hp, ht', hpast⟩ := ht.past hn0 x
    exact ⟨(x - old) / old, ⟨w'⟩, by simp [RateOfChange.next, hp], ht', by simp [Spec.roc, cur_snoc, hpast]⟩

theorem C02_past {P n : Nat} (v : K) (hn0 : 0 < n) (hn : n ≤ P - 1) (xs : List K) :
    Conforms (Past.new P n v) Past.next (Spec.past n v) xs := by
  apply method_spec _ _ (fun h s => Tracks P n s.window (history n v h))
  · obtain ⟨w, hw, ht⟩ := Tracks.new (P := P) v hn
    exact ⟨⟨w⟩, by simp [Past.new, not_zero_or_max hn0 hn, hw, Res.ofExcept, Res.bind], ht⟩
  · intro h s x ht
    obtain ⟨old, w', hp, ht', hpast⟩ := ht.past hn0 x
    exact ⟨old, ⟨w'⟩, by simp [Past.next, hp], ht', hpast.symm⟩

/-- StDev: the quantity under the final square root is the sample variance (divisor n−1) of the last `n` values;
    the code returns its `sqrt` (not modelled: the run compares the squared output) -/
theorem C02_stdev {P n : Nat} (v : K) (hn2 : 2 ≤ n) (hn : n ≤ P - 1) (xs : List K) :
    ∃ s0 outs s', StDev.new P n v = .ok s0 ∧ runM StDev.next s0 xs = .ok (outs, s') ∧
      outs.length = xs.length ∧ ∀ i (hi : i < outs.length), outs[i] = Spec.variance n v (xs.take (i + 1)) := by
  apply windowed_spec v _ _ (StDev.Inv P n)
    (fun l => (l.map fun x => (x - Spec.mean n l) * (x - Spec.mean n l)).sum / ((n - 1 : Nat) : K)) (StDev.new_spec v hn2 hn)
  intro hist s x h
  obtain ⟨o, s', hnx, hinv', ho⟩ := StDev.next_spec x hn2 h
  exact ⟨o, s', hnx, hinv', by rw [ho, StDev.peekVar_eq hn2 hinv']⟩

/-- LinearVolatility: the sum of the absolute successive differences of the last `n` steps, never negative -/
theorem C02_linear_volatility {P n : Nat} (v : K) (hn0 : 0 < n) (hn : n ≤ P - 1) (xs : List K) :
    ∃ s0 outs s', LinearVolatility.new P n v = .ok s0 ∧ runM LinearVolatility.next s0 xs = .ok (outs, s') ∧
      outs.length = xs.length ∧
      ∀ i (hi : i < outs.length), outs[i] = Spec.linearVolatility n v (xs.take (i + 1)) ∧ 0 ≤ outs[i] := by
  obtain ⟨s0, outs, s', h1, h2, h3, h4⟩ := method_spec _ _ (LinearVolatility.Inv P n v) (Spec.linearVolatility n v)
    (LinearVolatility.new_spec v hn0 hn) (fun _ _ x h => LinearVolatility.next_spec x hn0 h) xs
  exact ⟨s0, outs, s', h1, h2, h3, fun i hi => ⟨h4 i hi, by rw [h4 i hi]; exact linearVolatility_nonneg _ _ _⟩⟩

/-- MeanAbsDev: mean absolute deviation of the last `n` values around their mean, never negative -/
theorem C02_mean_abs_dev {P n : Nat} (v : K) (hn0 : 0 < n) (hn : n ≤ P - 1) (xs : List K) :
    ∃ s0 outs s', MeanAbsDev.new P n v = .ok s0 ∧ runM MeanAbsDev.next s0 xs = .ok (outs, s') ∧
      outs.length = xs.length ∧
      ∀ i (hi : i < outs.length), outs[i] = Spec.meanAbsDev n v (xs.take (i + 1)) ∧ 0 ≤ outs[i] := by
  obtain ⟨s0, outs, s', h1, h2, h3, h4⟩ := windowed_spec v _ _ (fun hist (s : MeanAbsDev K) => SMA.Inv P n hist s.sma)
    (fun l => (l.map fun x => sabs (x - Spec.mean n l)).sum / (n : K)) (MeanAbsDev.new_spec v hn0 hn)
    (fun _ _ x h => MeanAbsDev.next_spec x hn0 h) xs
  exact ⟨s0, outs, s', h1, h2, h3, fun i hi => ⟨h4 i hi, by rw [h4 i hi]; exact meanAbsDev_nonneg n v _⟩⟩

/-- CCI: `(value − mean)/mean-absolute-deviation`, and `0` exactly when the deviation is not positive (no
    absolute threshold: the method is scale-invariant) -/
theorem C02_cci {P n : Nat} (v : K) (hn0 : 0 < n) (hn : n ≤ P - 1) (xs : List K) :
    ∃ s0 outs s', CCI.new P n v = .ok s0 ∧ runM CCI.next s0 xs = .ok (outs, s') ∧
      outs.length = xs.length ∧ ∀ i (hi : i < outs.length), outs[i] = Spec.cci n v (xs.take (i + 1)) :=
  method_spec _ _ (fun h s => SMA.Inv P n (history n v h) s.mad.sma) _ (CCI.new_spec v hn0 hn)
    (fun _ _ x h => CCI.next_spec x hn0 h) xs

/-- TRIMA: the simple average of the series of simple averages -/
theorem C02_trima {P n : Nat} (v : K) (hn0 : 0 < n) (hn : n ≤ P - 1) (xs : List K) :
    ∃ s0 outs s', TRIMA.new P n v = .ok s0 ∧ runM TRIMA.next s0 xs = .ok (outs, s') ∧
      outs.length = xs.length ∧ ∀ i (hi : i < outs.length), outs[i] = Spec.trima n v (xs.take (i + 1)) :=
  TRIMA.run_spec v hn0 hn xs

/-- HMA: WMA(⌊√n⌋) of the series 2·WMA(n/2) − WMA(n) -/
theorem C02_hma {P n : Nat} (v : K) (hn2 : 2 ≤ n) (hn : n ≤ P - 1) (xs : List K) :
    ∃ s0 outs s', HMA.new P n v = .ok s0 ∧ runM HMA.next s0 xs = .ok (outs, s') ∧
      outs.length = xs.length ∧ ∀ i (hi : i < outs.length), outs[i] = Spec.hma n v (xs.take (i + 1)) :=
  HMA.run_spec v hn2 hn xs

/-- VWMA: Σ price·volume / Σ volume over the last `n` pairs -/
theorem C02_vwma {P n : Nat} (v : K × K) (hn0 : 0 < n) (hn : n ≤ P - 1) (xs : List (K × K)) :
    ∃ s0 outs s', VWMA.new P n v = .ok s0 ∧ runM VWMA.next s0 xs = .ok (outs, s') ∧
      outs.length = xs.length ∧ ∀ i (hi : i < outs.length), outs[i] = Spec.vwma n v (xs.take (i + 1)) :=
  windowed_spec v _ _ (VWMA.Inv P n) (fun l => (l.map fun p => p.1 * p.2).sum / (l.map fun p => p.2).sum)
    (VWMA.new_spec v hn0 hn) (fun _ _ x h => VWMA.next_spec x hn0 h) xs

/-- windowed ADI: Σ CLV·volume over the last `n` candles -/
theorem C02_adi_windowed {P n : Nat} (c0 : Candle K) (hn0 : 0 < n) (hn : n ≤ P - 1) (cs : List (Candle K)) :
    ∃ s0 outs s', ADI.new P n c0 = .ok s0 ∧ runM ADI.next s0 cs = .ok (outs, s') ∧
      outs.length = cs.length ∧
      ∀ i (hi : i < outs.length),
        outs[i] = ((lastN n (history n c0 (cs.take (i + 1)))).map fun c => c.clv * c.volume).sum := by
  -- the step after `apply`, which beta-reduces its goal: given as an argument it is three times as slow to check
  apply windowed_spec c0 _ _ (ADI.Inv P n) (fun l => (l.map fun c => c.clv * c.volume).sum) (ADI.new_spec c0 hn0 hn)
  exact fun _ _ x h => ADI.next_spec x hn0 h

/-- LinReg: the least-squares line through the last `n` values (abscissae −(n−1) … 0) at the newest abscissa -/
theorem C02_linreg {P n : Nat} (v : K) (hn2 : 2 ≤ n) (hn : n ≤ P - 1) (xs : List K) :
    ∃ s0 outs s', LinReg.new P n v = .ok s0 ∧ runM LinReg.next s0 xs = .ok (outs, s') ∧
      outs.length = xs.length ∧ ∀ i (hi : i < outs.length), outs[i] = Spec.linreg n v (xs.take (i + 1)) :=
  LinReg.run_spec v hn2 hn xs

/-- Conv: Σ wᵢ·xᵢ / Σ wᵢ over the last `|w|` values, weights given oldest → newest -/
theorem C02_conv {P : Nat} (ws : List K) (v : K) (h1 : 1 ≤ ws.length) (hn : ws.length ≤ P - 1) (xs : List K) :
    ∃ s0 outs s', Conv.new P ws v = .ok s0 ∧ runM Conv.next s0 xs = .ok (outs, s') ∧
      outs.length = xs.length ∧ ∀ i (hi : i < outs.length), outs[i] = Spec.conv ws v (xs.take (i + 1)) :=
  windowed_spec v _ _ (Conv.Inv P ws) (fun l => (List.zipWith (fun x w => x * w) l ws).sum / ws.sum)
    (Conv.new_spec ws v h1 hn) (fun _ _ x h => Conv.next_spec x h1 h) xs

/-- MedianAbsDev (total order of the representation = `total_cmp`): mean absolute deviation around the median -/
theorem C02_median_abs_dev [TotalCmp K] [BitEq K] [TotalLike K] {P n : Nat} (v : K) (hn2 : 2 ≤ n) (hn : n ≤ P - 1) (xs : List K) :
    ∃ s0 outs s', MedianAbsDev.new P n v = .ok s0 ∧ runM MedianAbsDev.next s0 xs = .ok (outs, s') ∧
      outs.length = xs.length ∧ ∀ i (hi : i < outs.length), outs[i] = Spec.medianAbsDev n v (xs.take (i + 1)) :=
  method_spec _ _ (MedianAbsDev.Inv P n v) _ (MedianAbsDev.new_spec v hn2 hn)
    (fun _ _ x h => MedianAbsDev.next_spec x (by omega) h) xs

/-- SWMA (length ≥ 2): triangular weights min(i+1, n−i) over the last `n` values, normalised by their sum -/
theorem C02_swma {P n : Nat} (v : K) (hn2 : 2 ≤ n) (hn : n ≤ P - 1) (xs : List K) :
    ∃ s0 outs s', SWMA.new P n v = .ok s0 ∧ runM SWMA.next s0 xs = .ok (outs, s') ∧
      outs.length = xs.length ∧ ∀ i (hi : i < outs.length), outs[i] = Spec.swma n v (xs.take (i + 1)) :=
  SWMA.run_spec v hn2 hn xs

/-- length 0 is rejected by every constructor that documents it (Integral accepts it: cumulative) -/
theorem C02_zero_length_rejected {P : Nat} (v : K) :
    (∃ e, SMA.new P 0 v = .err e) ∧ (∃ e, WMA.new P 0 v = .err e) ∧ (∃ e, Momentum.new P 0 v = .err e) ∧
    (∃ e, Derivative.new P 0 v = .err e) ∧ (∃ e, RateOfChange.new P 0 v = .err e) ∧ (∃ e, Past.new P 0 v = .err e) :=
  ⟨⟨_, rfl⟩, ⟨_, rfl⟩, ⟨_, rfl⟩, ⟨_, rfl⟩, ⟨_, rfl⟩, ⟨_, rfl⟩⟩

/-! non-vacuity: the hypotheses are met by the default PeriodType and a real stream, and the
    statement computes to the expected numbers (exact rationals) -/
example : (0 < 3 ∧ 3 ≤ 255 - 1) := by decide
example : Spec.sma 3 (1 : ℚ) [2, 3, 4] = 3 ∧ Spec.wma 3 (1 : ℚ) [2, 3, 4] = 20 / 6 ∧
    Spec.momentum 3 (1 : ℚ) [2, 3, 4, 5] = 3 := by
  refine ⟨?_, ?_, ?_⟩ <;>
  norm_num [Spec.sma, Spec.wma, Spec.momentum, Spec.mean, Spec.win, Spec.rampSum, Spec.cur, Spec.past,
    lastN, history, List.replicate]

end Yata.C02

#print axioms Yata.C02.C02_sma
#print axioms Yata.C02.C02_wma
#print axioms Yata.C02.C02_integral
#print axioms Yata.C02.C02_momentum
#print axioms Yata.C02.C02_derivative
#print axioms Yata.C02.C02_rate_of_change
#print axioms Yata.C02.C02_past
#print axioms Yata.C02.C02_stdev
#print axioms Yata.C02.C02_linear_volatility
#print axioms Yata.C02.C02_mean_abs_dev
#print axioms Yata.C02.C02_cci
#print axioms Yata.C02.C02_trima
#print axioms Yata.C02.C02_hma
#print axioms Yata.C02.C02_vwma
#print axioms Yata.C02.C02_adi_windowed
#print axioms Yata.C02.C02_linreg
#print axioms Yata.C02.C02_conv
#print axioms Yata.C02.C02_median_abs_dev
#print axioms Yata.C02.C02_swma
#print axioms Yata.C02.C02_zero_length_rejected
