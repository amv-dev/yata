/-
  C15 — Moving averages are averages: affine-equivariant, range-preserving, linear.

  Proved for the from-scratch specs (equal to the machines by C02/C03), in every linear ordered
  field, for every length, construction value and stream:
    * SMA, WMA and the exponential recurrence (EMA with α = 2/(n+1), RMA/WSMA with α = 1/n; DMA and
      TMA are its compositions) commute with every affine map x ↦ a·x + b (any sign of a);
    * they satisfy superposition;
    * they never leave the hull of the values given (construction value included) — for the
      recurrence because its smoothing constant lies in [0, 1] (`C15_smoothing_in_unit_interval`);
    * constants are reproduced exactly (C08);
    * the weights are the documented profiles: SMA 1/n, WMA (i+1)/(n(n+1)/2) from the oldest
      (i.e. 2(n−age)/(n(n+1))), by definition of the specs (as an impulse response: `C15_wma_impulse`);
    * Conv (any weights with non-zero sum; hull for non-negative weights with positive sum), SWMA (length ≥ 2), TRIMA:
      affine equivariance, superposition, hull (`C15_conv`, `C15_swma`, `C15_trima`); VWMA: affine in the price for fixed
      volumes, hull for non-negative volumes with positive sum (`C15_vwma`);
    * HMA and LinReg, which overshoot by design: affine equivariance (and superposition for HMA) only
      (`C15_hma`, `C15_linreg`);
    * SMM and Vidya (not linear, no superposition): affine equivariance for every a ≠ 0 — the median because sorting a
      reflected window reverses it and the two middle positions swap, Vidya because |CMO| is invariant — and the hull
      (`C15_smm`, `C15_vidya`).
  So every moving-average kind has its theorems; the same relations are also checked on the real code (metamorphic run).
-/
import YataProofs.Constant
import YataProofs.Indicators.RSI
namespace Yata.C15
open Yata
variable {K : Type} [Field K] [LinearOrder K] [IsStrictOrderedRing K]

theorem C15_sma (n : Nat) (hn : 0 < n) (v : K) (xs : List K) :
    (∀ a b : K, Spec.sma n (a * v + b) (xs.map fun x => a * x + b) = a * Spec.sma n v xs + b) ∧
    (∀ (w : K) (ys : List K), xs.length = ys.length →
        Spec.sma n (v + w) (List.zipWith (· + ·) xs ys) = Spec.sma n v xs + Spec.sma n w ys) ∧
    (∀ lo hi : K, (∀ x ∈ v :: xs, lo ≤ x ∧ x ≤ hi) → lo ≤ Spec.sma n v xs ∧ Spec.sma n v xs ≤ hi) :=
  have h := sma_average (K := K) n hn
  ⟨fun a b => h.affine a b v xs, fun w ys => h.additive v w xs ys, h.hull v xs⟩

theorem C15_wma (n : Nat) (hn : 0 < n) (v : K) (xs : List K) :
    (∀ a b : K, Spec.wma n (a * v + b) (xs.map fun x => a * x + b) = a * Spec.wma n v xs + b) ∧
    (∀ (w : K) (ys : List K), xs.length = ys.length →
        Spec.wma n (v + w) (List.zipWith (· + ·) xs ys) = Spec.wma n v xs + Spec.wma n w ys) ∧
    (∀ lo hi : K, (∀ x ∈ v :: xs, lo ≤ x ∧ x ≤ hi) → lo ≤ Spec.wma n v xs ∧ Spec.wma n v xs ≤ hi) :=
  have h := wma_average (K := K) n hn
  ⟨fun a b => h.affine a b v xs, fun w ys => h.additive v w xs ys, h.hull v xs⟩

theorem C15_exponential (α v : K) (xs : List K) :
    (∀ a b : K, Spec.emaRec α (a * v + b) (xs.map fun x => a * x + b) = a * Spec.emaRec α v xs + b) ∧
    (∀ (w : K) (ys : List K), xs.length = ys.length →
        Spec.emaRec α (v + w) (List.zipWith (· + ·) xs ys) = Spec.emaRec α v xs + Spec.emaRec α w ys) ∧
    (0 ≤ α → α ≤ 1 → ∀ lo hi : K, (∀ x ∈ v :: xs, lo ≤ x ∧ x ≤ hi) →
        lo ≤ Spec.emaRec α v xs ∧ Spec.emaRec α v xs ≤ hi) :=
  ⟨fun a b => emaRec_affine α a b v xs, fun w ys => emaRec_add α v w xs ys, fun h0 h1 => emaRec_hull α h0 h1 v xs⟩

theorem C15_smoothing_in_unit_interval (n : Nat) (hn : 0 < n) :
    (0 : K) ≤ ((2 : Nat) : K) / ((n + 1 : Nat) : K) ∧ ((2 : Nat) : K) / ((n + 1 : Nat) : K) ≤ 1 ∧
    (0 : K) ≤ 1 / (n : K) ∧ (1 : K) / (n : K) ≤ 1 :=
  ⟨(ema_alpha_range n hn).1, (ema_alpha_range n hn).2, rma_alpha_range n hn⟩

theorem C15_constants (n k : Nat) (hn : 0 < n) (α v : K) :
    Spec.sma n v (List.replicate k v) = v ∧ Spec.wma n v (List.replicate k v) = v ∧
    Spec.emaRec α v (List.replicate k v) = v :=
  ⟨sma_constant n k hn v, wma_constant n k hn v, emaRec_constant α v k⟩

theorem C15_conv (ws : List K) (v : K) (xs : List K) :
    (ws.sum ≠ 0 → ∀ a b : K, Spec.conv ws (a * v + b) (xs.map fun x => a * x + b) = a * Spec.conv ws v xs + b) ∧
    (∀ (w : K) (ys : List K), xs.length = ys.length →
        Spec.conv ws (v + w) (List.zipWith (· + ·) xs ys) = Spec.conv ws v xs + Spec.conv ws w ys) ∧
    ((∀ w ∈ ws, 0 ≤ w) → 0 < ws.sum → ∀ lo hi : K, (∀ x ∈ v :: xs, lo ≤ x ∧ x ≤ hi) →
        lo ≤ Spec.conv ws v xs ∧ Spec.conv ws v xs ≤ hi) :=
  ⟨fun hs a b => conv_affine ws hs a b v xs, fun w ys => conv_add ws v w xs ys, fun hw hs => conv_hull ws hw hs v xs⟩

theorem C15_swma (n : Nat) (hn : 2 ≤ n) (v : K) (xs : List K) :
    (∀ a b : K, Spec.swma n (a * v + b) (xs.map fun x => a * x + b) = a * Spec.swma n v xs + b) ∧
    (∀ (w : K) (ys : List K), xs.length = ys.length →
        Spec.swma n (v + w) (List.zipWith (· + ·) xs ys) = Spec.swma n v xs + Spec.swma n w ys) ∧
    (∀ lo hi : K, (∀ x ∈ v :: xs, lo ≤ x ∧ x ≤ hi) → lo ≤ Spec.swma n v xs ∧ Spec.swma n v xs ≤ hi) :=
  have h := swma_average (K := K) n hn
  ⟨fun a b => h.affine a b v xs, fun w ys => h.additive v w xs ys, h.hull v xs⟩

theorem C15_trima (n : Nat) (hn : 0 < n) (v : K) (xs : List K) :
    (∀ a b : K, Spec.trima n (a * v + b) (xs.map fun x => a * x + b) = a * Spec.trima n v xs + b) ∧
    (∀ (w : K) (ys : List K), xs.length = ys.length →
        Spec.trima n (v + w) (List.zipWith (· + ·) xs ys) = Spec.trima n v xs + Spec.trima n w ys) ∧
    (∀ lo hi : K, (∀ x ∈ v :: xs, lo ≤ x ∧ x ≤ hi) → lo ≤ Spec.trima n v xs ∧ Spec.trima n v xs ≤ hi) :=
  have h := trima_average (K := K) n hn
  ⟨fun a b => h.affine a b v xs, fun w ys => h.additive v w xs ys, h.hull v xs⟩

theorem C15_vwma (n : Nat) (v : K × K) (xs : List (K × K)) :
    (((lastN n (history n v xs)).map fun p => p.2).sum ≠ 0 → ∀ a b : K,
        Spec.vwma n (a * v.1 + b, v.2) (xs.map fun p => (a * p.1 + b, p.2)) = a * Spec.vwma n v xs + b) ∧
    (∀ lo hi : K, (∀ p ∈ v :: xs, lo ≤ p.1 ∧ p.1 ≤ hi ∧ 0 ≤ p.2) →
        0 < ((lastN n (history n v xs)).map fun p => p.2).sum → lo ≤ Spec.vwma n v xs ∧ Spec.vwma n v xs ≤ hi) :=
  ⟨fun hs a b => vwma_affine n a b v xs hs, vwma_hull n v xs⟩

theorem C15_hma (n : Nat) (h2 : 0 < n / 2) (hs : 0 < Nat.sqrt n) (v : K) (xs : List K) :
    (∀ a b : K, Spec.hma n (a * v + b) (xs.map fun x => a * x + b) = a * Spec.hma n v xs + b) ∧
    (∀ (w : K) (ys : List K), xs.length = ys.length →
        Spec.hma n (v + w) (List.zipWith (· + ·) xs ys) = Spec.hma n v xs + Spec.hma n w ys) :=
  ⟨fun a b => hma_affine n h2 hs a b v xs, fun w ys => hma_add n h2 hs v w xs ys⟩

theorem C15_linreg (n : Nat) (hn : 0 < n) (a b v : K) (xs : List K) :
    Spec.linreg n (a * v + b) (xs.map fun x => a * x + b) = a * Spec.linreg n v xs + b :=
  linreg_affine n hn a b v xs

theorem C15_smm (n : Nat) (hn : 0 < n) (v : K) (xs : List K) :
    (∀ a b : K, a ≠ 0 → Spec.smm n (a * v + b) (xs.map fun x => a * x + b) = a * Spec.smm n v xs + b) ∧
    (∀ lo hi : K, (∀ x ∈ v :: xs, lo ≤ x ∧ x ≤ hi) → lo ≤ Spec.smm n v xs ∧ Spec.smm n v xs ≤ hi) :=
  ⟨fun a b ha => smm_affine n hn a b v ha xs, smm_hull n hn v xs⟩

theorem C15_vidya [DecidableEq K] (n : Nat) (hn : 0 < n) (v : K) (xs : List K) :
    (∀ a b : K, a ≠ 0 → Spec.vidya n (a * v + b) (xs.map fun x => a * x + b) = a * Spec.vidya n v xs + b) ∧
    (∀ lo hi : K, (∀ x ∈ v :: xs, lo ≤ x ∧ x ≤ hi) → lo ≤ Spec.vidya n v xs ∧ Spec.vidya n v xs ≤ hi) :=
  ⟨fun a b ha => vidya_affine n a b v ha xs, vidya_hull n hn v xs⟩

/-- WMA weight profile: impulse response of the spec — a unit value at age `j` (0 = newest) inside
    a zero window contributes `(n - j)/(n(n+1)/2) = 2(n−j)/(n(n+1))` -/
theorem C15_wma_impulse (n j : Nat) (hj : j < n) :
    Spec.rampSum 1 (List.replicate (n - 1 - j) (0 : K) ++ [1] ++ List.replicate j 0) = ((n - j : Nat) : K) := by
  have z : ∀ k m : Nat, Spec.rampSum k (List.replicate m (0 : K)) = 0 := fun k m => by
    rw [rampSum_eq_wsumIdx, wsumIdx_replicate, zero_mul]
  rw [rampSum_append, rampSum_append, z, z, List.length_replicate, Spec.rampSum, Spec.rampSum,
    show 1 + (n - 1 - j) = n - j by omega]
  ring

example : Spec.wma 3 (0 : ℚ) [0, 0, 0, 1] = 1 / 2 ∧ Spec.wma 3 (0 : ℚ) [0, 0, 0, 1, 0] = 1 / 3 := by
  constructor <;> norm_num [Spec.wma, Spec.win, Spec.rampSum, lastN, history, List.replicate]

open Yata.Ind in
/-- EVERY kind of the configurable moving average at once: its documented formula commutes with every affine change of unit
    `x ↦ a·x + b`, `a ≠ 0` (construction value included), for every accepted length and every stream -/
theorem C15_every_kind_affine {P : Nat} (k : MAKind) (n : Nat) (hv : validLen P k n) (a b v : ℚ) (ha : a ≠ 0) (xs : List ℚ) :
    specOf k n (a * v + b) (xs.map fun x => a * x + b) = a * specOf k n v xs + b := specOf_affine k n hv a b v ha xs

open Yata.Ind in
/-- a consequence one level up, and the model-level counterpart of the exact scale law run on the real code: the documented
    RSI value does not depend on the unit the prices are quoted in — every kind of average, every positive factor, every stream -/
theorem C15_rsi_unit_free {P : Nat} (c : RSICfg) (h1 : validLen P c.ma.kind c.ma.length) (a : ℚ) (ha : 0 < a) (p0 : ℚ)
    (srcs : List ℚ) : RSI.valueOf c (a * p0) (srcs.map fun x => a * x) = RSI.valueOf c p0 srcs := by
  have hsp : ∀ l : List ℚ, specOf c.ma.kind c.ma.length 0 (l.map fun x => a * x) = a * specOf c.ma.kind c.ma.length 0 l := by
    intro l
    have := specOf_affine (P := P) c.ma.kind c.ma.length h1 a 0 0 (ne_of_gt ha) l
    simpa using this
  unfold RSI.valueOf
  -- the factor passes through gains, losses and the averages, then cancels from the guard and from the quotient
  simp only [RSI.gains_scale a ha, RSI.losses_scale a ha, hsp, ← mul_neg, ← mul_add, mul_eq_zero, ha.ne', false_or,
    mul_div_mul_left _ _ ha.ne']

end Yata.C15

#print axioms Yata.C15.C15_sma
#print axioms Yata.C15.C15_wma
#print axioms Yata.C15.C15_exponential
#print axioms Yata.C15.C15_smoothing_in_unit_interval
#print axioms Yata.C15.C15_constants
#print axioms Yata.C15.C15_wma_impulse
#print axioms Yata.C15.C15_conv
#print axioms Yata.C15.C15_swma
#print axioms Yata.C15.C15_trima
#print axioms Yata.C15.C15_vwma
#print axioms Yata.C15.C15_hma
#print axioms Yata.C15.C15_linreg
#print axioms Yata.C15.C15_smm
#print axioms Yata.C15.C15_vidya
#print axioms Yata.C15.C15_every_kind_affine
#print axioms Yata.C15.C15_rsi_unit_free
