/-
  C09 — Streaming, batch and chunked evaluation agree; clones are independent.

  The model of a method is a pure state machine `next : σ → ι → Except Panic (ο × σ)`; the API
  routes are modelled in `YataModel/Runner.lean`.  Proved once, for every machine:
    * `over` yields exactly one output per input;
    * feeding `xs ++ ys` equals feeding `xs` and then `ys` from the state reached — hence every way
      of cutting a stream into consecutive chunks (including empty ones) gives the same outputs;
    * `new_over []` constructs nothing and returns `[]`; `new_over (x :: xs)` is `over` from `new x`;
    * `apply` writes back the same sequence as `over`;
    * the history wrapper returns the inner outputs and `get i` is the i-th newest of them;
    * the last-value wrapper is the inner machine after one extra leading copy of the initial value,
      and its `peek` is the output produced last;
    * `peek` after a `next` returns what that `next` returned, for the `Peekable` methods of `YataProofs/Peek.lean`.
  Determinism and clone independence are definitional for pure functions in the model; for the
  Rust code they are facts about derived `Clone` on owned data and are checked by the correspondence
  run (every route × random chunkings × clone points × disturbing the original), not proved.
-/
import YataProofs.Peek
import YataProofs.Runner
namespace Yata.C09
open Yata
variable {σ ι ο : Type}

theorem C09_one_output_per_input (next : σ → ι → Except Panic (ο × σ)) (s : σ) (xs : List ι) {os : List ο} {s' : σ}
    (h : runM next s xs = .ok (os, s')) : os.length = xs.length := runM_length next s xs h

theorem C09_chunking (next : σ → ι → Except Panic (ο × σ)) (s : σ) (xs ys : List ι) :
    runM next s (xs ++ ys) =
      match runM next s xs with
      | .error e => .error e
      | .ok (os, s') =>
        match runM next s' ys with
        | .error e => .error e
        | .ok (os', s'') => .ok (os ++ os', s'') := runM_append next s xs ys

theorem C09_empty_chunk (next : σ → ι → Except Panic (ο × σ)) (s : σ) : runM next s [] = .ok ([], s) := rfl

theorem C09_new_over (new : ι → Res σ) (next : σ → ι → Except Panic (ο × σ)) :
    newOver new next [] = .ok [] ∧
    ∀ (x : ι) (xs : List ι) {s : σ}, new x = .ok s → ∀ {os : List ο} {s' : σ},
      runM next s (x :: xs) = .ok (os, s') → newOver new next (x :: xs) = .ok os :=
  ⟨rfl, fun x xs _ hs _ _ hr => by simp [newOver, hs, hr, Res.bind, Res.map, Res.ofExcept]⟩

theorem C09_apply (next : σ → ι → Except Panic (ι × σ)) (s : σ) (xs : List ι) :
    applyM next s xs = runM next s xs := rfl

theorem C09_with_history (next : σ → ι → Except Panic (ο × σ)) (s : σ) (xs : List ι)
    {os : List ο} {s' : σ} (hr : runM next s xs = .ok (os, s')) :
    runM (WithHistory.next next) (WithHistory.new s) xs = .ok (os, { history := os, instance_ := s' }) ∧
    ∀ i, ({ history := os, instance_ := s' } : WithHistory σ ο).get i = os.reverse[i]? := by
  refine ⟨by simpa [WithHistory.new] using withHistory_run next s [] xs hr, fun i => withHistory_get _ i⟩

/-- `WithLastValue::new` feeds the initial value once; afterwards it is the inner machine,
    and `peek` is the output produced last -/
theorem C09_with_last_value (next : σ → ι → Except Panic (ο × σ)) (s : σ) (init : ι) (xs : List ι)
    {o0 : ο} {s0 : σ} (h0 : next s init = .ok (o0, s0)) {os : List ο} {s' : σ}
    (hr : runM next s0 xs = .ok (os, s')) :
    ∃ w0, WithLastValue.new next s init = .ok w0 ∧ w0.peek = o0 ∧
      runM (WithLastValue.next next) w0 xs =
        .ok (os, { last_value := (o0 :: os).getLast (by simp), instance_ := s' }) := by
  refine ⟨{ last_value := o0, instance_ := s0 }, by simp [WithLastValue.new, h0], rfl, ?_⟩
  clear h0
  induction xs generalizing s0 o0 os with
  | nil => cases hr; rfl
  | cons x xs ih =>
    obtain ⟨o, s1, os1, hn, hr1, rfl⟩ := (runM_cons_ok ..).1 hr
    refine (runM_cons_ok ..).2 ⟨o, _, os1, by simp only [WithLastValue.next, hn]; rfl, ?_, rfl⟩
    simpa [List.getLast_cons] using ih hr1

/-- `peek` = the value most recently produced (a selection of the `peek_next` of `YataProofs/Peek.lean`) -/
theorem C09_peek_sma {α : Type} [Zero α] [One α] [Add α] [Sub α] [Mul α] [Div α] [Neg α] [NatCast α]
    [LT α] [DecidableLT α] [LE α] [DecidableLE α] (s : SMA α) (x : α) {o : α} {s' : SMA α}
    (h : s.next x = .ok (o, s')) : s'.peek = o := SMA.peek_next s x h

theorem C09_peek_ema {α : Type} [Add α] [Sub α] [Mul α] (s : EMA α) (x : α) : (s.next x).2.peek = (s.next x).1 := rfl

theorem C09_peek_wma {α : Type} [Zero α] [One α] [Add α] [Sub α] [Mul α] [Div α] [Neg α] [NatCast α]
    [LT α] [DecidableLT α] [LE α] [DecidableLE α] (s : WMA α) (x : α) {o : α} {s' : WMA α}
    (h : s.next x = .ok (o, s')) : s'.peek = o := WMA.peek_next s x h

/-! non-vacuity: a concrete machine (running sum over Nat) on a stream cut in two -/
example : runM (fun (s : Nat) (x : Nat) => Except.ok (s + x, s + x)) 0 ([1, 2] ++ [3]) =
    .ok ([1, 3, 6], 6) := by rfl

end Yata.C09

#print axioms Yata.C09.C09_one_output_per_input
#print axioms Yata.C09.C09_chunking
#print axioms Yata.C09.C09_empty_chunk
#print axioms Yata.C09.C09_new_over
#print axioms Yata.C09.C09_apply
#print axioms Yata.C09.C09_with_history
#print axioms Yata.C09.C09_with_last_value
#print axioms Yata.C09.C09_peek_sma
#print axioms Yata.C09.C09_peek_ema
#print axioms Yata.C09.C09_peek_wma
