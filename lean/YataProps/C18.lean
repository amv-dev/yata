/-
  C18 — Candle helpers satisfy their textbook identities; text forms round-trip.

  Model: `YataModel/Candle.lean` (OHLCV default methods, `Candle + Candle`, `Source`),
  `YataModel/Text.lean` (`FromStr for Source`, `FromStr for MA`, Rust's unsigned-integer grammar).
  All arithmetic statements hold in every linear ordered field.  `validate`'s handling of NaN and
  infinities is not expressible in a field; it is modelled on classified bit patterns in the driver
  (`validateBits`) and compared exhaustively over the special-value classes by the correspondence run.
-/
import YataProofs.Candle
import YataProofs.Text
namespace Yata.C18
open Yata
variable {K : Type} [Field K] [LinearOrder K] [IsStrictOrderedRing K]

theorem C18_formulas (c : Candle K) :
    c.tp = (c.high + c.low + c.close) / 3 ∧ c.hl2 = (c.high + c.low) / 2 ∧
    c.ohlc4 = (c.high + c.low + c.close + c.open_) / 4 ∧ c.volumedPrice = (c.high + c.low + c.close) / 3 * c.volume :=
  Candle.formulas c

theorem C18_source (c : Candle K) :
    c.source .close = c.close ∧ c.source .open_ = c.open_ ∧ c.source .high = c.high ∧ c.source .low = c.low ∧
    c.source .hl2 = c.hl2 ∧ c.source .tp = c.tp ∧ c.source .volume = c.volume ∧
    c.source .volumedPrice = c.volumedPrice := ⟨rfl, rfl, rfl, rfl, rfl, rfl, rfl, rfl⟩

theorem C18_clv (c : Candle K) :
    c.clv = (if c.high = c.low then 0 else ((c.close - c.low) - (c.high - c.close)) / (c.high - c.low)) ∧
    (c.low ≤ c.close → c.close ≤ c.high → -1 ≤ c.clv ∧ c.clv ≤ 1) :=
  ⟨Candle.clv_eq c, Candle.clv_range c⟩

/-- the single-subtraction true range equals the textbook three-way maximum max(high−low, |high−prev_close|,
    |low−prev_close|) whenever high ≥ low -/
theorem C18_true_range (c : Candle K) (p : K) (h : c.low ≤ c.high) :
    c.trClose p = max (max (c.high - c.low) |c.high - p|) |c.low - p| := by
  unfold Candle.trClose
  rw [smax_eq_max, smin_eq_min]
  exact max_sub_min_eq c.high c.low p h

/-- validate (finite fields): exactly the ordered, positive candles with non-negative volume -/
theorem C18_validate (c : Candle K) :
    c.validateFinite = true ↔
      (c.low ≤ c.open_ ∧ c.open_ ≤ c.high ∧ c.low ≤ c.close ∧ c.close ≤ c.high ∧
       0 < c.open_ ∧ 0 < c.high ∧ 0 < c.low ∧ 0 < c.close ∧ 0 ≤ c.volume) := Candle.validateFinite_iff c

theorem C18_add_assoc (a b c : Candle K) : (a.add b).add c = a.add (b.add c) := by
  simp only [Candle.add, smax_eq_max, smin_eq_min, max_assoc, min_assoc, add_assoc]

/-- the aggregate of a non-empty sequence: first open, highest high, lowest low, last close, summed volume -/
theorem C18_aggregate (x : Candle K) (xs : List (Candle K)) :
    let r := xs.foldl Candle.add x
    r.open_ = x.open_ ∧ r.close = ((x :: xs).getLast (by simp)).close ∧
    r.high = (xs.map (·.high)).foldl max x.high ∧ r.low = (xs.map (·.low)).foldl min x.low ∧
    r.volume = x.volume + (xs.map (·.volume)).sum := Candle.foldl_add x xs

theorem C18_source_roundtrip : ∀ s ∈ Source.all, Text.parseSource s.toStr.toList = some s := by decide +kernel

theorem C18_ma_roundtrip (k : MAKind) (n : Nat) (hn : n ≤ 255) :
    Text.parseMA 255 (k.name ++ '-' :: Text.natDigits n) = some { kind := k, length := n } :=
  Text.ma_roundtrip_any 255 k n hn

/-- whatever parses has the form `<name of a kind>-<text that parses as the length>` -/
theorem C18_ma_parse_form (P : Nat) (l : List Char) (m : MA) (h : Text.parseMA P l = some m) :
    ∃ a b, Text.splitOnce '-' l = some (a, b) ∧ MAKind.ofName a = some m.kind ∧ Text.parseUInt P b = some m.length := by
  unfold Text.parseMA at h
  split at h
  · cases h
  · rename_i a b hs
    split at h
    · cases h
    · rename_i n hp
      obtain ⟨k, hk, rfl⟩ := Option.map_eq_some_iff.1 h
      exact ⟨a, b, hs, hk, hp⟩

/-! the parsers on concrete text: an accepted form, a length beyond the `PeriodType`, blanks and upper case -/
example : Text.parseMA 255 "ema-12".toList = some ⟨.ema, 12⟩ ∧ Text.parseMA 255 "ema-256".toList = none ∧
    Text.parseSource "  HLC3 ".toList = some .tp := by decide +kernel

end Yata.C18

#print axioms Yata.C18.C18_formulas
#print axioms Yata.C18.C18_source
#print axioms Yata.C18.C18_clv
#print axioms Yata.C18.C18_true_range
#print axioms Yata.C18.C18_validate
#print axioms Yata.C18.C18_add_assoc
#print axioms Yata.C18.C18_aggregate
#print axioms Yata.C18.C18_source_roundtrip
#print axioms Yata.C18.C18_ma_roundtrip
#print axioms Yata.C18.C18_ma_parse_form
