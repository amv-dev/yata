/-
  C06 — Indicator signals fire exactly under their documented conditions.

  The model's `sigs` functions take the value list as an argument; the correspondence run applies them to the
  values the implementation returned, so these theorems describe exactly the rule that is enforced there.

  * MACD: signal 1 is the crossing rule on (MACD line, signal line), signal 2 on (MACD line, 0), with the detector
    remembering the previous difference (`C06_macd`); the crossing rule itself is C14.
  * Donchian, price channel, Envelopes: stateless band-touch rules as case distinctions (`C06_donchian`,
    `C06_price_channel`, `C06_envelopes`).
  * Aroon: the two counters count consecutive steps with (up in the upper zone and down in the lower zone) resp. the
    mirrored condition and reset to 0 otherwise; the trend strength is their difference over `over_zone_period`; the edge
    signal fires on an extreme of age 0 (`C06_aroon`).
  * Parabolic SAR (every reachable state): the signal is silent iff the returned trend equals the previously returned one,
    and otherwise points in the direction of the new trend; the trend is always ±1 (`C06_sar_signal`, `C06_sar_inv`;
    over whole streams from the constructor `C06_sar_run`).
  * RSI and money-flow index (detector pairs remembering one difference — true of every reachable state): signal 1
    buys when the value falls into the lower zone and sells when it rises into the upper zone, signal 2 buys when it
    leaves the lower zone upwards and sells when it leaves the upper zone downwards (`C06_rsi`, `C06_mfi`).
  * Chaikin money flow: crossing of zero; Chande momentum, Keltner, Stochastic: differences of one-sided crossings of
    their zones / bands, Stochastic's third signal the crossing of its two lines (`C06_cmf`, `C06_cmo`, `C06_keltner`,
    `C06_stochastic`).
  * Ichimoku: both signals require the source beyond a cloud of the matching colour together with the tenkan/kijun
    resp. source/kijun crossing (`C06_ichimoku`); TrueStrengthIndex: zone signal, zero crossing, signal-line crossing
    (`C06_tsi`); SMIErgodic: crossing of the signal line while that line is beyond the zone (`C06_smi`);
    RelativeVigorIndex (`C06_rvi`, as coded — the documentation states the opposite sign of signal 2, DESIGN §7.1);
    WoodiesCCI: the signed bar counter is reset to ±1 by a zero crossing, grows by the sign of the trend CCI, and the signal
    fires with the counter's sign when it reaches `s1_lag` (`C06_woodies`, `C06_woodies_count` — the documented rule;
    the code was fixed to it); CommodityChannelIndex (`C06_cci`); MomentumIndex, ADX (stateless, `C06_momentum_index`,
    `C06_adx`); zero / signal-line crossings of ChaikinOscillator, EaseOfMovement, EldersForceIndex, Klinger, KnowSureThing
    (`C06_single_crossings`).
  In the statements: `sgn b` is 1 / 0 for `true` / `false`; `crossI p c` is +1 / −1 / 0 as the crossing-above rule, the
  crossing-under rule or neither holds of the previous difference `p` and the current one `c`; `Synced c`: both detectors
  inside the `Cross` `c` hold the same last difference (true of every reachable one: `synced_new`, `synced_next`).  Every
  proof unfolds `sigs` and reads each detector with `Cross.next_def` or, given `Synced`, `cross_next_ofI8`.
  Partial: Bollinger (proportional strength), AwesomeOscillator, Coppock, Trix, Hull, Kaufman, ChandeKrollStop, PivotReversal,
  TrendStrengthIndex, FisherTransform rules are not stated as theorems (validated by the run).
-/
import YataProofs.Indicators.SAR
import YataProofs.Indicators.Extremes
namespace Yata.C06
open Yata Yata.Ind

theorem C06_macd (s : MACD) (k : Candle ℚ) (macd sig : ℚ) :
    (s.sigs k [macd, sig]).1 =
      [ Action.ofI8 ((if crossAboveRule s.cross1.up.last_delta (macd - sig) then 1 else 0) -
                     (if crossUnderRule s.cross1.down.last_delta (macd - sig) then 1 else 0)),
        Action.ofI8 ((if crossAboveRule s.cross2.up.last_delta (macd - 0) then 1 else 0) -
                     (if crossUnderRule s.cross2.down.last_delta (macd - 0) then 1 else 0)) ] ∧
    (s.sigs k [macd, sig]).2.cross1.up.last_delta = macd - sig ∧
    (s.sigs k [macd, sig]).2.cross1.down.last_delta = macd - sig ∧
    (s.sigs k [macd, sig]).2.cross2.up.last_delta = macd - 0 ∧
    (s.sigs k [macd, sig]).2.cross2.down.last_delta = macd - 0 := by
  refine ⟨?_, rfl, rfl, rfl, rfl⟩
  simp only [MACD.sigs, List.getD_cons_zero, List.getD_cons_succ, (Cross.next_def s.cross1 (macd, sig)).1,
    (Cross.next_def s.cross2 (macd, 0)).1]

theorem C06_donchian (k : Candle ℚ) (lo mid hi : ℚ) :
    Channel.donchianSig k [lo, mid, hi] =
      if hi ≤ k.high ∧ ¬ k.low ≤ lo then Action.buyAll
      else if k.low ≤ lo ∧ ¬ hi ≤ k.high then Action.sellAll else Action.none := by
  unfold Channel.donchianSig
  rw [ofI8_sgn_sub]
  simp only [List.getD_cons_succ, List.getD_cons_zero, Bool.and_eq_true, decide_eq_true_eq,
    Bool.not_eq_true', decide_eq_false_iff_not]

theorem C06_price_channel (k : Candle ℚ) (up lo : ℚ) :
    Channel.priceChannelSig k [up, lo] =
      if up ≤ k.high ∧ ¬ k.low ≤ lo then Action.buyAll
      else if k.low ≤ lo ∧ ¬ up ≤ k.high then Action.sellAll else Action.none := by
  unfold Channel.priceChannelSig
  rw [ofI8_sgn_sub]
  simp only [List.getD_cons_succ, List.getD_cons_zero, Bool.and_eq_true, decide_eq_true_eq,
    Bool.not_eq_true', decide_eq_false_iff_not]

theorem C06_envelopes (up lo src2 : ℚ) :
    Env.sig [up, lo, src2] =
      if src2 < lo ∧ ¬ up < src2 then Action.buyAll
      else if up < src2 ∧ ¬ src2 < lo then Action.sellAll else Action.none := by
  unfold Env.sig
  rw [ofI8_sgn_sub]
  simp only [List.getD_cons_succ, List.getD_cons_zero, Bool.and_eq_true, decide_eq_true_eq,
    Bool.not_eq_true', decide_eq_false_iff_not]

theorem C06_aroon (s : Aroon) (up dn : ℚ) (idx : Nat × Nat) :
    let z := s.cfg.signal_zone
    let r := s.sigs [up, dn] idx
    let ut := if decide (1 - z ≤ up) && decide (dn ≤ z) then s.uptrend + 1 else 0
    let dt := if decide (1 - z ≤ dn) && decide (up ≤ z) then s.downtrend + 1 else 0
    r.2.uptrend = ut ∧ r.2.downtrend = dt ∧
    r.1.2.2 = ((ut - dt : Int) : ℚ) / (s.cfg.over_zone_period : ℚ) ∧
    r.1.2.1 = Action.ofI8 (sgn (idx.1 == 0) - sgn (idx.2 == 0)) ∧
    r.1.1 = (s.cross.next (up, dn)).1 := by
  simp only [Aroon.sigs, List.getD_cons_zero, List.getD_cons_succ, id, Aroon.counter_step, and_self]

theorem C06_sar_inv (a b : ℚ) (k0 : Candle ℚ) (s : SAR) (h : SAR.init a b k0 = .ok s) (k : Candle ℚ) (hv : k.low ≤ k.high) :
    SAR.Inv s ∧ SAR.Inv (s.next k).2 ∧ (s.next k).2.prev_trend = (SAR.afterFlip s k).trend :=
  ⟨(SAR.init_inv a b k0 s h).1, SAR.next_inv s k (SAR.init_inv a b k0 s h).1⟩

theorem C06_sar_signal (s : SAR) (k : Candle ℚ) (hi : SAR.Inv s) (hv : k.low ≤ k.high) :
    SAR.Inv (s.next k).2 ∧ (s.next k).2.prev_trend = (SAR.afterFlip s k).trend ∧
    (s.next k).1.2 =
      (if s.prev_trend = (SAR.afterFlip s k).trend then Action.none
       else if (SAR.afterFlip s k).trend = 1 then Action.buyAll else Action.sellAll) :=
  ⟨(SAR.next_inv s k hi).1, (SAR.next_inv s k hi).2, SAR.next_signal s k hi⟩

/-- Parabolic SAR over whole streams, from its constructor: the signal of step `i` fires exactly when the returned trend
    differs from the one returned at step `i − 1` (from 0, "no trend yet", at the first step): full buy for a new up-trend,
    full sell for a new down-trend -/
theorem C06_sar_run (a b : ℚ) (k0 : Candle ℚ) (s0 : SAR) (h0 : SAR.init a b k0 = .ok s0) (cs : List (Candle ℚ))
    (hv : ∀ k ∈ cs, k.low ≤ k.high) :
    ∀ i (hi : i < cs.length),
      let o := (SAR.run s0 cs).1[i]'(by rw [SAR.run_length]; exact hi)
      let f := (SAR.flips s0 cs)[i]'(by rw [SAR.flips_length]; exact hi)
      o.1.map VExp.value = [f.sar, (f.trend : ℚ)] ∧
      o.2 = SAR.rule (if _h : i = 0 then 0 else ((SAR.flips s0 cs)[i - 1]'(by rw [SAR.flips_length]; omega)).trend) f.trend := by
  intro i hi
  obtain ⟨hinv, hprev⟩ := SAR.init_inv a b k0 s0 h0
  have h := SAR.run_spec s0 hinv cs i hi
  rw [hprev] at h
  exact ⟨h.1, h.2.1⟩

/-! non-vacuity: a candle piercing the SAR of the initial up-trend flips it and sells -/
example : ((({ af_step := 1/50, af_max := 1/5, trend := 1, trend_inc := 1, low := 9, high := 11, sar := 9,
               prev_low := 9, prev_high := 11, prev_trend := 1 } : SAR).next
            { open_ := 10, high := 10, low := 8, close := 9, volume := 1 }).1.2) = Action.sellAll := by
  decide +kernel

theorem C06_rsi (s : RSI) (hl : Synced s.cross_lower) (hu : Synced s.cross_upper) (value : ℚ) :
    let dL := s.cross_lower.up.last_delta
    let dU := s.cross_upper.up.last_delta
    let lo := value - s.cfg.zone
    let up := value - (1 - s.cfg.zone)
    (s.sigs [value]).1 =
      [ Action.ofI8 (sgn (crossUnderRule dL lo) - sgn (crossAboveRule dU up)),
        Action.ofI8 (sgn (crossAboveRule dL lo) - sgn (crossUnderRule dU up)) ] ∧
    Synced (s.sigs [value]).2.cross_lower ∧ Synced (s.sigs [value]).2.cross_upper ∧
    (s.sigs [value]).2.cross_lower.up.last_delta = lo ∧ (s.sigs [value]).2.cross_upper.up.last_delta = up := by
  refine ⟨?_, rfl, rfl, rfl, rfl⟩
  simp only [RSI.sigs, List.getD_cons_zero, id, cross_next_ofI8 _ hl, cross_next_ofI8 _ hu, analog_ofI8_crossI,
    decide_crossI_pos, decide_crossI_neg]

theorem C06_mfi (s : MFI) (hl : Synced s.cross_lower) (hu : Synced s.cross_upper) (upper value lower : ℚ) :
    let dL := s.cross_lower.up.last_delta
    let dU := s.cross_upper.up.last_delta
    let lo := value - s.zone
    let up := value - (1 - s.zone)
    (s.sigs [upper, value, lower]).1 =
      [ Action.ofI8 (sgn (crossUnderRule dL lo) - sgn (crossAboveRule dU up)),
        Action.ofI8 (sgn (crossAboveRule dL lo) - sgn (crossUnderRule dU up)) ] ∧
    Synced (s.sigs [upper, value, lower]).2.cross_lower ∧ Synced (s.sigs [upper, value, lower]).2.cross_upper := by
  refine ⟨?_, rfl, rfl⟩
  simp only [MFI.sigs, List.getD_cons_zero, List.getD_cons_succ, id, cross_next_ofI8 _ hl, cross_next_ofI8 _ hu,
    analog_ofI8_crossI, decide_crossI_pos, decide_crossI_neg]

theorem C06_cmf (s : CMF) (v : ℚ) :
    (s.sigs [v]).1 =
      [ Action.ofI8 ((if crossAboveRule s.cross_over.up.last_delta (v - 0) then 1 else 0) -
                     (if crossUnderRule s.cross_over.down.last_delta (v - 0) then 1 else 0)) ] := by
  simp only [CMF.sigs, List.getD_cons_zero, (Cross.next_def s.cross_over (v, 0)).1]

theorem C06_cmo (s : CMO) (v : ℚ) :
    (s.sigs [v]).1 =
      [ Action.sub (if crossUnderRule s.cross_under.last_delta (v - -s.cfg.zone) then Action.buyAll else Action.none)
                   (if crossAboveRule s.cross_above.last_delta (v - s.cfg.zone) then Action.buyAll else Action.none) ] ∧
    (s.sigs [v]).2.cross_under.last_delta = v - -s.cfg.zone ∧ (s.sigs [v]).2.cross_above.last_delta = v - s.cfg.zone := by
  refine ⟨?_, rfl, rfl⟩
  simp only [CMO.sigs, List.getD_cons_zero, (CrossUnder.next_def s.cross_under (v, -s.cfg.zone)).1,
    (CrossAbove.next_def s.cross_above (v, s.cfg.zone)).1]

theorem C06_keltner (s : Keltner) (src upper lower : ℚ) :
    (s.sigs [src, upper, lower]).1 =
      [ Action.sub (if crossUnderRule s.cross_under.last_delta (src - lower) then Action.buyAll else Action.none)
                   (if crossAboveRule s.cross_above.last_delta (src - upper) then Action.buyAll else Action.none) ] := by
  simp only [Keltner.sigs, List.getD_cons_zero, List.getD_cons_succ, (CrossUnder.next_def s.cross_under (src, lower)).1,
    (CrossAbove.next_def s.cross_above (src, upper)).1]

theorem C06_stochastic (s : Stoch) (f1 f2 : ℚ) :
    (s.sigs [f1, f2]).1 =
      [ Action.sub (if crossAboveRule s.cross_above1.last_delta (f1 - s.cfg.zone) then Action.buyAll else Action.none)
                   (if crossUnderRule s.cross_under1.last_delta (f1 - s.upper_zone) then Action.buyAll else Action.none),
        Action.sub (if crossAboveRule s.cross_above2.last_delta (f2 - s.cfg.zone) then Action.buyAll else Action.none)
                   (if crossUnderRule s.cross_under2.last_delta (f2 - s.upper_zone) then Action.buyAll else Action.none),
        Action.ofI8 ((if crossAboveRule s.cross_over.up.last_delta (f1 - f2) then 1 else 0) -
                     (if crossUnderRule s.cross_over.down.last_delta (f1 - f2) then 1 else 0)) ] := by
  simp only [Stoch.sigs, List.getD_cons_zero, List.getD_cons_succ, (CrossAbove.next_def s.cross_above1 (f1, s.cfg.zone)).1,
    (CrossUnder.next_def s.cross_under1 (f1, s.upper_zone)).1, (CrossAbove.next_def s.cross_above2 (f2, s.cfg.zone)).1,
    (CrossUnder.next_def s.cross_under2 (f2, s.upper_zone)).1, (Cross.next_def s.cross_over (f1, f2)).1]

theorem C06_ichimoku (s : Ichi) (h1 : Synced s.cross1) (h2 : Synced s.cross2) (src tenkan kijun a b : ℚ) :
    let above := decide (a < src) && decide (b < src) && decide (b < a)
    let below := decide (src < a) && decide (src < b) && decide (a < b)
    (s.sigs src [tenkan, kijun, a, b]).1 =
      [ Action.ofI8 (sgn (above && crossAboveRule s.cross1.up.last_delta (tenkan - kijun)) -
                     sgn (below && crossUnderRule s.cross1.up.last_delta (tenkan - kijun))),
        Action.ofI8 (sgn (above && crossAboveRule s.cross2.up.last_delta (src - kijun)) -
                     sgn (below && crossUnderRule s.cross2.up.last_delta (src - kijun))) ] := by
  simp only [Ichi.sigs, List.getD_cons_zero, List.getD_cons_succ, cross_next_ofI8 _ h1, cross_next_ofI8 _ h2,
    ofI8_crossI_beq_buy, ofI8_crossI_beq_sell]

theorem C06_tsi (s : TSIx) (h1 : Synced s.cross1) (h2 : Synced s.cross2) (tsi sig : ℚ) :
    (s.sigsTSI [tsi, sig]).1 =
      [ Action.sub (if crossUnderRule s.cross_under.last_delta (tsi - -s.cfg.zone) then Action.buyAll else Action.none)
                   (if crossAboveRule s.cross_above.last_delta (tsi - s.cfg.zone) then Action.buyAll else Action.none),
        Action.ofI8 (crossI s.cross1.up.last_delta (tsi - 0)),
        Action.ofI8 (crossI s.cross2.up.last_delta (tsi - sig)) ] := by
  simp only [TSIx.sigsTSI, List.getD_cons_zero, List.getD_cons_succ, cross_next_ofI8 _ h1, cross_next_ofI8 _ h2,
    (CrossUnder.next_def s.cross_under (tsi, -s.cfg.zone)).1, (CrossAbove.next_def s.cross_above (tsi, s.cfg.zone)).1]

theorem C06_smi (s : TSIx) (h1 : Synced s.cross1) (tsi sig : ℚ) :
    (s.sigsSMI [tsi, sig]).1 =
      [ Action.ofI8 (sgn (crossAboveRule s.cross1.up.last_delta (tsi - sig) && decide (sig < -s.cfg.zone)) -
                     sgn (crossUnderRule s.cross1.up.last_delta (tsi - sig) && decide (s.cfg.zone < sig))) ] := by
  simp only [TSIx.sigsSMI, List.getD_cons_zero, List.getD_cons_succ, cross_next_ofI8 _ h1, analog_ofI8_crossI,
    decide_crossI_pos, decide_crossI_neg]

theorem C06_rvi (s : RVI) (hs : Synced s.cross) (rvi sig : ℚ) :
    (s.sigs [rvi, sig]).1 =
      [ Action.ofI8 (crossI s.cross.up.last_delta (rvi - sig)),
        Action.ofI8 (sgn (crossUnderRule s.cross.up.last_delta (rvi - sig) && decide (s.zone < rvi) && decide (s.zone < sig)) -
                     sgn (crossAboveRule s.cross.up.last_delta (rvi - sig) && decide (rvi < -s.zone) && decide (sig < -s.zone))) ] := by
  simp only [RVI.sigs, List.getD_cons_zero, List.getD_cons_succ, cross_next_ofI8 _ hs, analog_ofI8_crossI,
    decide_crossI_pos, decide_crossI_neg]

theorem C06_woodies (s : Woodies) (hs : Synced s.s1_cross) (turbo trend : ℚ) :
    let cr := crossI s.s1_cross.up.last_delta (trend - 0)
    let cnt : Int := if cr = 0 then s.s1_count + signi trend else cr
    (s.sigs [turbo, trend]).1 = [Action.ofI8 ((if cnt.natAbs = s.s1_lag then 1 else 0) * Int.sign cnt)] ∧
    (s.sigs [turbo, trend]).2.s1_count = cnt := by
  simp only [Woodies.sigs, List.getD_cons_zero, List.getD_cons_succ, cross_next_ofI8 _ hs, analog_ofI8_crossI, and_self]

theorem C06_woodies_count (s : Woodies) (hs : Synced s.s1_cross) (turbo trend : ℚ) :
    (crossAboveRule s.s1_cross.up.last_delta (trend - 0) = true → (s.sigs [turbo, trend]).2.s1_count = 1) ∧
    (crossUnderRule s.s1_cross.up.last_delta (trend - 0) = true → (s.sigs [turbo, trend]).2.s1_count = -1) ∧
    (crossAboveRule s.s1_cross.up.last_delta (trend - 0) = false → crossUnderRule s.s1_cross.up.last_delta (trend - 0) = false →
      (s.sigs [turbo, trend]).2.s1_count = s.s1_count + signi trend) := by
  rw [(C06_woodies s hs turbo trend).2]
  rcases crossI_cases s.s1_cross.up.last_delta (trend - 0) with ⟨a, u, e⟩ | ⟨a, u, e⟩ | ⟨a, u, e⟩ <;> rw [a, u, e] <;> simp

theorem C06_cci (s : CCIInd) (cci : ℚ) :
    let t : Int := sgn (decide (cci < -s.zone) && decide (-s.zone ≤ s.last_cci)) - sgn (decide (s.zone < cci) && decide (s.last_cci ≤ s.zone))
    (s.sigs [cci]).1 = [Action.ofI8 ((if t ≠ 0 ∧ s.last_signal ≠ t then 1 else 0) * t)] ∧
    (s.sigs [cci]).2.last_cci = cci ∧ (s.sigs [cci]).2.last_signal = (if t ≠ 0 ∧ s.last_signal ≠ t then 1 else 0) * t :=
  ⟨rfl, rfl, rfl⟩

theorem C06_momentum_index (a b : ℚ) :
    MomIdx.sig [a, b] = (if 0 < a ∧ 0 < b then Action.buyAll else if a < 0 ∧ b < 0 then Action.sellAll else Action.none) := by
  simp only [MomIdx.sig, List.getD_cons_zero, List.getD_cons_succ, ← Bool.decide_and]
  exact ofI8_sgn_sub_of_excl (fun h h' => lt_asymm h.1 h'.1)

theorem C06_adx (s : ADX) (adx plus minus : ℚ) :
    (s.sigs [adx, plus, minus]) =
      ((if s.zone < adx then (if minus < plus then Action.buyAll else if plus < minus then Action.sellAll else Action.none)
        else Action.none), plus - minus) := by
  simp only [ADX.sigs, List.getD_cons_zero, List.getD_cons_succ, ofI8_sgn_mul,
    ofI8_sgn_sub_of_excl (lt_asymm (a := minus) (b := plus)), decide_eq_true_eq]

theorem C06_single_crossings (v sl : ℚ) :
    (∀ s : ChaikinOsc, Synced s.cross_over → (s.sigs [v]).1 = [Action.ofI8 (crossI s.cross_over.up.last_delta (v - 0))]) ∧
    (∀ s : EoM, Synced s.cross → (s.sigs [v]).1 = [Action.ofI8 (crossI s.cross.up.last_delta (v - 0))]) ∧
    (∀ s : EFI, Synced s.cross_over → (s.sigs [v]).1 = [Action.ofI8 (crossI s.cross_over.up.last_delta (v - 0))]) ∧
    (∀ s : KST, Synced s.cross → (s.sigs [v, sl]).1 = [Action.ofI8 (crossI s.cross.up.last_delta (v - sl))]) ∧
    (∀ s : Klinger, Synced s.cross1 → Synced s.cross2 →
      (s.sigs [v, sl]).1 = [Action.ofI8 (crossI s.cross1.up.last_delta (v - 0)), Action.ofI8 (crossI s.cross2.up.last_delta (v - sl))]) :=
  ⟨fun s h => by simp only [ChaikinOsc.sigs, List.getD_cons_zero, cross_next_ofI8 _ h],
   fun s h => by simp only [EoM.sigs, List.getD_cons_zero, cross_next_ofI8 _ h],
   fun s h => by simp only [EFI.sigs, List.getD_cons_zero, cross_next_ofI8 _ h],
   fun s h => by simp only [KST.sigs, List.getD_cons_zero, List.getD_cons_succ, cross_next_ofI8 _ h],
   fun s h1 h2 => by
    simp only [Klinger.sigs, List.getD_cons_zero, List.getD_cons_succ, cross_next_ofI8 _ h1, cross_next_ofI8 _ h2]⟩

end Yata.C06

#print axioms Yata.C06.C06_macd
#print axioms Yata.C06.C06_donchian
#print axioms Yata.C06.C06_price_channel
#print axioms Yata.C06.C06_envelopes
#print axioms Yata.C06.C06_aroon
#print axioms Yata.C06.C06_sar_inv
#print axioms Yata.C06.C06_sar_signal
#print axioms Yata.C06.C06_sar_run
#print axioms Yata.C06.C06_rsi
#print axioms Yata.C06.C06_mfi
#print axioms Yata.C06.C06_cmf
#print axioms Yata.C06.C06_cmo
#print axioms Yata.C06.C06_keltner
#print axioms Yata.C06.C06_stochastic
#print axioms Yata.C06.C06_ichimoku
#print axioms Yata.C06.C06_tsi
#print axioms Yata.C06.C06_smi
#print axioms Yata.C06.C06_rvi
#print axioms Yata.C06.C06_woodies
#print axioms Yata.C06.C06_woodies_count
#print axioms Yata.C06.C06_cci
#print axioms Yata.C06.C06_momentum_index
#print axioms Yata.C06.C06_adx
#print axioms Yata.C06.C06_single_crossings
