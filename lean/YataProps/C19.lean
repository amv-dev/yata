/-
  C19 — The unsafe_performance feature changes nothing observable and stays in bounds.

  `Generated/Surface.lean` (regenerated from /repo/src on every run) lists every `get_unchecked*` and
  `ptr::copy` outside tests with its index expression.  `C19_sites_known` proves that list contains
  only the sites analysed below (a new or changed unchecked access falsifies it).  For each known
  site the model's index expression is proved to be inside the buffer under the representation
  invariant of C01 (which every reachable window satisfies), and the branch-free `ptr::copy` arm of
  SMM is proved equal to the safe `copy_within` arm with both ranges inside the slice.
  Hence — under the trusted Rust semantics "`get_unchecked(i)` is `[i]` when `i` is in bounds" — both
  builds compute the same function wherever the default build does not panic.  The compiled artefact
  itself is compared bit-for-bit with the default build by the correspondence run.
-/
import YataProofs.Unsafe
import YataProofs.Window
import Generated.Surface
namespace Yata.C19
open Yata Yata.Window Yata.Generated
variable {α : Type} {P : Nat}

/-- (file, construct, index expression) of the unchecked accesses the theorems below cover -/
def knownSites : List (String × String × String) := [
  ("src/methods/smm.rs", "get_unchecked", "index"),                 -- `get(slice, i)`: median indices, binary-search halves
  ("src/methods/smm.rs", "get_unchecked_mut", "index"),             -- insertion position
  ("src/methods/smm.rs", "ptr::copy", ""),                          -- the shift
  ("src/core/window.rs", "get_unchecked_mut", "self.index as usize"),  -- push
  ("src/core/window.rs", "get_unchecked", "index as usize"),        -- newest
  ("src/core/window.rs", "get_unchecked", "self.index as usize"),   -- oldest, both iterators
  ("src/core/window.rs", "get_unchecked", "buf_index")]             -- Index

theorem C19_sites_known :
    unsafeSites.all (fun s => knownSites.contains (s.1, s.2.2.1, s.2.2.2)) = true ∧ unsafeSites.length = 9 := by decide +kernel

/-- `push` / `oldest`: `buf.get_unchecked(_mut)(self.index)` -/
theorem C19_window_push_oldest {w : Window α} (h : Inv P w) (hpos : 0 < w.size) : w.index < w.buf.length :=
  pos_zero h ▸ pos_lt h hpos (Nat.zero_le _)

/-- `newest`: `index.checked_sub(1).unwrap_or(s_1)` -/
theorem C19_window_newest {w : Window α} (h : Inv P w) (hpos : 0 < w.size) :
    (checkedSub w.index 1).getD w.s_1 < w.buf.length :=
  newest_index h hpos ▸ pos_lt h hpos (Nat.sub_le _ _)

/-- `Index`: whenever `slice_index` returns `Some(i)`, `i` is inside the buffer -/
theorem C19_window_index {w : Window α} (h : Inv P w) (k : Nat) (hk : k < w.size) :
    ∃ bi, sliceIndex P w k = .ok (some bi) ∧ bi < w.buf.length :=
  ⟨_, sliceIndex_spec h k hk, pos_lt h (by omega) (by omega)⟩

/-- `WindowIterator::next`: the cursor after the update; `ReversedWindowIterator::next`: the cursor before it -/
theorem C19_window_iterators {w : Window α} {it : Iter} {j : Nat} (h : Inv P w) (hj : j < w.size) :
    (IterInv w it j → satSub it.index 1 + (if it.index = 0 then 1 else 0) * w.s_1 < w.buf.length) ∧
    (IterRevInv w it j → it.index < w.buf.length) :=
  ⟨fun hit => hit.next_index h hj ▸ pos_lt h (by omega) (by omega),
   fun hit => hit.index_eq ▸ pos_lt h (by omega) (Nat.le_of_lt hj)⟩

theorem C19_smm_shift {β : Type} (l : List β) (o i : Nat) :
    smmUnsafeShift l o i = smmSafeShift l o i := by
  unfold smmUnsafeShift smmSafeShift smmUnsafeArgs
  by_cases h1 : i > o
  · have : i ≠ o := by omega
    simp only [this, ne_eq, not_false_eq_true, ↓reduceIte, h1, Nat.mul_one, Nat.sub_self, Nat.mul_zero, Nat.add_zero]
    congr 1; omega
  · by_cases h2 : i < o
    · have : i ≠ o := by omega
      simp only [this, ne_eq, not_false_eq_true, ↓reduceIte, h1, Nat.mul_zero, Nat.sub_zero, Nat.mul_one, Nat.zero_add, h2]
      congr 1; omega
    · have : i = o := by omega
      simp [this]

/-- source and destination ranges of the `ptr::copy` stay inside the slice of length `n` -/
theorem C19_smm_shift_in_bounds (n o i : Nat) (ho : o < n) (hi : i < n) :
    let (start, dest, count) := smmUnsafeArgs o i
    start + count ≤ n ∧ dest + count ≤ n := by
  unfold smmUnsafeArgs
  by_cases h1 : i > o
  · simp only [h1, ↓reduceIte, Nat.mul_one, Nat.sub_self, Nat.mul_zero, Nat.add_zero]; omega
  · simp only [h1, ↓reduceIte, Nat.mul_zero, Nat.sub_zero, Nat.mul_one, Nat.zero_add]; omega

example : smmUnsafeShift [1, 2, 3, 4, 5] 1 3 = [1, 3, 4, 4, 5] := by decide

end Yata.C19

#print axioms Yata.C19.C19_sites_known
#print axioms Yata.C19.C19_window_push_oldest
#print axioms Yata.C19.C19_window_newest
#print axioms Yata.C19.C19_window_index
#print axioms Yata.C19.C19_window_iterators
#print axioms Yata.C19.C19_smm_shift
#print axioms Yata.C19.C19_smm_shift_in_bounds
