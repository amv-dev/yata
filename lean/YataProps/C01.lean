/-
  C01 — Window is a faithful fixed-capacity FIFO for every size, phase and history.

  Model: `YataModel/Window.lean` (line-for-line model of src/core/window.rs).
  Quantifiers: every maximum `P` of PeriodType, every capacity `n ≤ P - 1`, every element type
  `α`, every construction value, every input list (hence every ring phase / fill level),
  every index, every split point `j` of an iterator.
-/
import YataProofs.Window
namespace Yata.C01
open Yata Yata.Window
variable {α : Type} {P : Nat}

/-- A window built by `new n v` and fed any `xs`: the pushes returned the values pushed `n`
    steps before (the construction value counting as `n` earlier pushes) and the window now
    represents exactly the last `n` elements of `replicate n v ++ xs`. -/
theorem C01_fifo {n : Nat} (v : α) (hn : n ≤ P - 1) (hpos : 0 < n) (xs : List α) :
    ∃ w0 w', Window.new P n v = .ok w0 ∧
      pushAll w0 xs = .ok ((history n v xs).take xs.length, w') ∧ Inv P w' ∧ w'.size = n ∧
      toList w' = lastN n (history n v xs) := by
  obtain ⟨w0, hnew, hinv, htl, hsz⟩ := new_ok (P := P) v hn
  obtain ⟨w', hp, hinv', hsz', htl'⟩ := pushAll_spec hinv (by omega) xs
  refine ⟨w0, w', hnew, ?_, hinv', by omega, ?_⟩
  · rw [hp, htl]; rfl
  · rw [htl', htl, history, lastN]; congr 1; simp

theorem C01_push {w : Window α} (x : α) (h : Inv P w) (hpos : 0 < w.size) :
    ∃ old w', push w x = .ok (old, w') ∧ Inv P w' ∧ w'.size = w.size ∧
      (toList w).head? = some old ∧ toList w' = (toList w).tail ++ [x] := by
  obtain ⟨a, t, w', ht, hp, hinv, hsz, ht'⟩ := push_cons x h hpos
  exact ⟨a, w', hp, hinv, hsz, by rw [ht]; rfl, by rw [ht', ht]; rfl⟩

/-- `new` rejects (debug panic) exactly the capacities above `PeriodType::MAX - 1` -/
theorem C01_new (n : Nat) (v : α) :
    (n ≤ P - 1 → ∃ w, Window.new P n v = .ok w ∧ Inv P w ∧ toList w = List.replicate n v) ∧
    (¬ n ≤ P - 1 → Window.new P n v = .error .assertFailed) :=
  ⟨fun h => by obtain ⟨w, a, b, c, _⟩ := new_ok (P := P) v h; exact ⟨w, a, b, c⟩, new_err v⟩

theorem C01_newest_oldest {w : Window α} (h : Inv P w) (hpos : 0 < w.size) :
    (∃ v, newest w = .ok v ∧ (toList w).getLast? = some v) ∧
    (∃ v, oldest w = .ok v ∧ (toList w).head? = some v) :=
  ⟨newest_spec h hpos, oldest_spec h hpos⟩

/-- `get k` is the k-th newest element, `none` outside `0..n` (never another element);
    `w[k]` returns the same element and panics exactly where `get` is `none`. -/
theorem C01_get_index {w : Window α} (h : Inv P w) (k : Nat) :
    get P w k = .ok ((toList w).reverse[k]?) ∧
    idx P w k = (match (toList w).reverse[k]? with
      | some v => .ok v
      | none => .error .indexOOB) :=
  ⟨get_spec h k, idx_spec h k⟩

/-- `iter()` split at any point `j`: after consuming `j` items (at most `n`) what remains is
    the newest→oldest sequence without its first `min j n` items; `size_hint`, `count` and
    `last` describe exactly that remainder (`last = none` once exhausted). -/
theorem C01_iter {w : Window α} (h : Inv P w) (j : Nat) :
    ∃ it, iterAdvance w j (iterStart w) = .ok it ∧
      iterCollect w (w.size + 1) it = .ok ((toList w).reverse.drop (min j w.size)) ∧
      iterSizeHint it = (w.size - min j w.size, some (w.size - min j w.size)) ∧
      iterCount it = w.size - min j w.size ∧
      iterLast w it = .ok (((toList w).reverse.drop (min j w.size)).getLast?) := by
  obtain ⟨it, ha, hi⟩ := iterAdvance_spec h j (iterStart w) 0 (iterStart_inv w)
  rw [Nat.zero_add] at hi
  refine ⟨it, ha, iterCollect_spec h _ it _ hi (by omega), ?_, ?_, iterLast_spec h hi⟩
  · simp [iterSizeHint, hi.2.1]
  · simp [iterCount, hi.2.1]

/-- `iter_rev()` split at any point `j` -/
theorem C01_iter_rev {w : Window α} (h : Inv P w) (j : Nat) :
    ∃ it, iterRevAdvance w j (iterStart w) = .ok it ∧
      iterRevCollect w (w.size + 1) it = .ok ((toList w).drop (min j w.size)) ∧
      iterSizeHint it = (w.size - min j w.size, some (w.size - min j w.size)) ∧
      iterCount it = w.size - min j w.size ∧
      iterRevLast w it = .ok (((toList w).drop (min j w.size)).getLast?) := by
  obtain ⟨it, ha, hi⟩ := iterRevAdvance_spec h j (iterStart w) 0 (iterStart_revInv h)
  rw [Nat.zero_add] at hi
  refine ⟨it, ha, iterRevCollect_spec h _ it _ hi (by omega), ?_, ?_, iterRevLast_spec h hi⟩
  · simp [iterSizeHint, hi.2.1]
  · simp [iterCount, hi.2.1]

/-- an empty window never yields an element -/
theorem C01_empty :
    push (empty : Window α) = (fun _ => .error .emptyWindow) ∧
    (∀ k, get P (empty : Window α) k = .ok none) ∧
    (∀ k, idx P (empty : Window α) k = .error .indexOOB) ∧
    iterNext (empty : Window α) (iterStart (empty : Window α)) = .ok none ∧
    iterRevNext (empty : Window α) (iterStart (empty : Window α)) = .ok none ∧
    iterLast (empty : Window α) (iterStart (empty : Window α)) = .ok none ∧
    iterRevLast (empty : Window α) (iterStart (empty : Window α)) = .ok none ∧
    newest (empty : Window α) = .error .indexOOB ∧
    oldest (empty : Window α) = .error .indexOOB := by
  refine ⟨rfl, fun k => ?_, fun k => ?_, rfl, rfl, rfl, rfl, rfl, rfl⟩
  · simpa [empty_toList] using get_spec (P := P) (empty_inv (α := α)) k
  · simpa [empty_toList] using idx_spec (P := P) (empty_inv (α := α)) k

/-- rebuilt from exported buffer + oldest-index, directly or through serialization: the
    very same window (hence the same sequence and the same future) -/
theorem C01_rebuild {w : Window α} (h : Inv P w) (hP : 1 ≤ P) :
    fromParts P (asSlice w) w.index = .ok w ∧ deserialize P (serialize w) = .ok (.ok w) :=
  ⟨fromParts_asSlice h hP, deserialize_serialize h hP⟩

/-- malformed serialized data is rejected, everything accepted is a consistent window -/
theorem C01_deserialize (buf : List α) (index : Nat) (hP : 1 ≤ P) :
    (∃ w, deserialize P (buf, index) = .ok (.ok w) ∧ Inv P w ∧
        toList w = buf.drop index ++ buf.take index) ∨
    ((∃ e, deserialize P (buf, index) = .error e) ∧
        (buf.length > P - 1 ∨ (buf.length ≤ index ∧ ¬ (buf = [] ∧ index = 0)))) :=
  deserialize_accepts buf index hP

/-! Non-vacuity: a concrete rotated window meets the hypotheses. -/
example : Inv 255 ({ buf := [4, 5, 3], index := 2, size := 3, s_1 := 2 } : Window Nat) ∧
    toList ({ buf := [4, 5, 3], index := 2, size := 3, s_1 := 2 } : Window Nat) = [3, 4, 5] := by
  refine ⟨⟨rfl, rfl, Or.inl (by decide), by decide⟩, rfl⟩

example : (Window.new 255 3 1 >>= fun w => pushAll w [2, 3, 4, 5]).map (fun r => (r.1, toList r.2))
    = .ok ([1, 1, 1, 2], [3, 4, 5]) := by rfl

end Yata.C01

#print axioms Yata.C01.C01_fifo
#print axioms Yata.C01.C01_push
#print axioms Yata.C01.C01_new
#print axioms Yata.C01.C01_newest_oldest
#print axioms Yata.C01.C01_get_index
#print axioms Yata.C01.C01_iter
#print axioms Yata.C01.C01_iter_rev
#print axioms Yata.C01.C01_empty
#print axioms Yata.C01.C01_rebuild
#print axioms Yata.C01.C01_deserialize
