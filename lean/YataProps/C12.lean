/-
  C12 — Documented value ranges and ordering invariants hold on every valid stream (exact arithmetic).

  * RSI value in [0,1] for non-negative averaged gains and losses (`C12_rsi_range`); money-flow value in [0,1] for
    non-negative flows (`C12_mfi_range`); `(P−N)/(P+N)` in [−1,1] (`C12_diff_ratio_range`); Chande momentum from every
    invariant state: the sums stay non-negative window sums, so the value stays in [−1,1] for ever (`C12_cmo`).
  * Raw stochastic %K in [0,1] whenever the close lies in the channel (`C12_stoch_k_range`); Aroon values in [0,1]
    (`C12_aroon_range`).
  * Donchian / price channel: the channel contains the candle just consumed, from every invariant state
    (`C12_channel_contains`); the constructor's state is one (`C12_channel_reachable`).
  * Parabolic SAR (every reachable state, every candle with low ≤ high): the returned SAR is ≤ the low in an up-trend and
    ≥ the high in a down-trend (`C12_sar_side`).
  * Bollinger: the model's variance is ≥ 0 so for sigma > 0 upper ≥ middle ≥ lower (`C12_bollinger_var_nonneg`); StDev² ≥ 0
    (`C12_stdev_nonneg`); true range ≥ 0 (`C12_tr_nonneg`); CLV in [−1,1] (`C12_clv_range`).
  * A quotient the code clamps is in its range for ALL operands (`C12_clamped_quotient_range`); hence RSI, MoneyFlowIndex and
    Chande momentum return a value of the documented range from ANY state, whatever rounding left in their sums
    (`C12_rsi_any_state`, `C12_mfi_any_state`, `C12_cmo_any_state`); the input of ADX's final average is in [0, 1] whatever
    the directional quotients are (`C12_adx_input_unit`).
  * Stochastic and RSI with hull-preserving averages: the ranges are inductive invariants (`C12_stochastic_reachable`,
    `C12_rsi_reachable`; `C12_hull_kinds`, `C12_every_smooth_kind_hull` supply the averages). Keltner lower ≤ upper from every
    invariant state, whatever the middle average answers (`C12_keltner_order`); Envelopes lower ≤ upper for a non-negative
    average (`C12_envelopes_order`).
  * Over WHOLE candle streams, from the constructor (no step panics; the bound holds at every step):
    Aroon [0,1] (`C12_aroon_run`); RSI [0,1] for every kind, the overshooting ones included (`C12_rsi_run_every_kind`,
    `C12_rsi_run`); MoneyFlowIndex [0,1] for non-negative volumes (`C12_mfi_reachable`); Stochastic, both lines, [0,1] for
    every pair of non-overshooting kinds (`C12_stochastic_run`); Chande momentum [−1,1] (`C12_cmo_run`); Chaikin money flow
    [−1,1] wherever the window's volume is not zero (`C12_cmf_reachable`); TSI [−1,1] (`C12_tsi_range`), TrueStrengthIndex /
    SMIErgodic value and signal line [−1,1] for every non-overshooting smoothing kind (`C12_tsi_indicator_run`);
    TrendStrengthIndex p² ≤ q (`C12_trend_strength_range`); ADX [0,1] for every non-overshooting final average
    (`C12_adx_run`); Parabolic SAR on the far side of every candle (`C12_sar_run`); Bollinger variance ≥ 0 hence
    upper ≥ middle ≥ lower (`C12_bollinger_run`); Keltner lower ≤ upper for every configuration (`C12_keltner_run`);
    Envelopes lower ≤ upper for non-negative prices and every non-overshooting kind (`C12_envelopes_run`); price channel
    upper ≥ lower and Donchian lowest ≤ middle ≤ highest (`C12_channels_order_run`); LinearVolatility, MeanAbsDev ≥ 0
    (`C12_linear_volatility_nonneg`, `C12_mean_abs_dev_nonneg`).
    "Non-overshooting kind": all but HMA, DEMA, TEMA, LinReg (`C12_every_smooth_kind_hull`, from the C15 hull theorems).
  The float side — rounding residue of either sign behind exact `== 0` guards — is what these theorems cannot see; the
  correspondence run tests the ranges strictly on the implementation's own values (see KNOWN_FINDINGS.txt).
  Partial: the SMI signal line and Envelopes ordering for arbitrary kinds: run only.
-/
import YataProofs.Indicators.SAR
import YataProofs.Indicators.Extremes
import YataProofs.Indicators.Stoch
import YataProofs.Indicators.MoneyFlow
import YataProofs.Indicators.CMO
import YataProofs.Indicators.Bands
import YataProofs.Indicators.RSI
import YataProofs.Indicators.Compositions
import YataProofs.Indicators.ADX
import YataProofs.Indicators.TrendStrength
import YataProps.C02
namespace Yata.C12
open Yata Yata.Ind

theorem C12_rsi_range (pos neg : ℚ) (h1 : 0 ≤ pos) (h2 : 0 ≤ neg) :
    0 ≤ (if pos + neg = 0 then half else pos / (pos + neg)) ∧ (if pos + neg = 0 then half else pos / (pos + neg)) ≤ 1 :=
  half_or_share_range _ h1 (le_add_of_nonneg_right h2)

theorem C12_mfi_range (p n : ℚ) (hp : 0 ≤ p) (hn : 0 ≤ n) :
    0 ≤ (if n = 0 then half else p / (p + n)) ∧ (if n = 0 then half else p / (p + n)) ≤ 1 :=
  half_or_share_range _ hp (le_add_of_nonneg_right hn)

theorem C12_diff_ratio_range (p n : ℚ) (hp : 0 ≤ p) (hn : 0 ≤ n) :
    -1 ≤ (if p + n = 0 then 0 else (p - n) / (p + n)) ∧ (if p + n = 0 then 0 else (p - n) / (p + n)) ≤ 1 :=
  diff_ratio_range p n hp hn

theorem C12_cmo {P : Nat} {s : CMO} (k : Candle ℚ) (h : CMO.Inv P s) :
    ∃ v s', s.vals k = .ok ([v], s') ∧ CMO.Inv P s' ∧ 0 ≤ s'.pos_sum ∧ 0 ≤ s'.neg_sum ∧ -1 ≤ v.value ∧ v.value ≤ 1 := by
  obtain ⟨v, s', h1, h2, h3, h4, _, h6, h7⟩ := CMO.vals_spec k h
  exact ⟨v, s', h1, h2, h3, h4, h6, h7⟩

theorem C12_stoch_k_range (close hi lo : ℚ) (h1 : lo ≤ close) (h2 : close ≤ hi) :
    0 ≤ Stoch.kRows close hi lo ∧ Stoch.kRows close hi lo ≤ 1 := kRows_range close hi lo h1 h2

theorem C12_aroon_range (p age : Nat) (hp : 0 < p) :
    (0 : ℚ) ≤ ((p - age : Nat) : ℚ) / (p : ℚ) ∧ ((p - age : Nat) : ℚ) / (p : ℚ) ≤ 1 := aroon_value_range p age

theorem C12_channel_contains {P : Nat} {highs lows : List ℚ} {s : Channel} (k : Candle ℚ) (h : Channel.Inv P highs lows s) :
    ∃ hi lo s', s.hl k = .ok (hi, lo, s') ∧ k.high ≤ hi ∧ lo ≤ k.low := Channel.contains k h

theorem C12_channel_reachable {P n : Nat} (σ : ℚ) (k : Candle ℚ) (hn1 : 1 < n) (hn : n ≤ P - 1) :
    ∃ s, Channel.init P n σ true k = .ok s ∧ s.period = n ∧ s.sigma = σ ∧
      Channel.Inv P (List.replicate n k.high) (List.replicate n k.low) s := Channel.init_ok σ k hn1 hn

theorem C12_sar_side (s : SAR) (k : Candle ℚ) (hi : SAR.Inv s) (hv : k.low ≤ k.high) :
    let a := SAR.afterFlip s k
    (a.trend = 1 ∨ a.trend = -1) ∧ (a.trend = 1 → a.sar ≤ k.low) ∧ (a.trend = -1 → k.high ≤ a.sar) :=
  SAR.next_side s k hi

theorem C12_bollinger_var_nonneg (s : BB) (k : Candle ℚ) (mid var : ℚ) (s' : BB) (h : s.step k = .ok (mid, var, s')) :
    0 ≤ var := by
  unfold BB.step at h
  obtain ⟨⟨_, a⟩, _, h⟩ := Except.bind_eq_ok h
  obtain ⟨⟨_, b⟩, hb, h⟩ := Except.bind_eq_ok h
  cases h
  exact StDev.next_nonneg hb

theorem C12_stdev_nonneg (s : StDev ℚ) : 0 ≤ s.peekVar := StDev.peekVar_nonneg s

/-- LinearVolatility is never negative, on every stream, at every step (exact arithmetic) -/
theorem C12_linear_volatility_nonneg {P n : Nat} (v : ℚ) (hn0 : 0 < n) (hn : n ≤ P - 1) (xs : List ℚ) :
    ∃ s0 outs s', LinearVolatility.new P n v = .ok s0 ∧ runM LinearVolatility.next s0 xs = .ok (outs, s') ∧
      outs.length = xs.length ∧ ∀ i (hi : i < outs.length), 0 ≤ outs[i] := by
  obtain ⟨s0, os, s', h1, h2, h3, h4⟩ := C02.C02_linear_volatility (P := P) v hn0 hn xs
  exact ⟨s0, os, s', h1, h2, h3, fun i hi => (h4 i hi).2⟩

/-- Keltner channel: from every invariant state (true ranges of candles with low ≤ high, sigma > 0) the lower band is
    not above the upper band -/
theorem C12_keltner_order {P : Nat} {hist : List ℚ} {s : Keltner} (k : Candle ℚ) (h : Keltner.Inv P hist s) (hv : k.low ≤ k.high)
    (m : M) (x : ℚ) (hm : s.ma.next (k.source s.cfg.source) = .ok (x, m)) :
    ∃ src up lo s', s.vals k = .ok ([src, up, lo], s') ∧ lo.value ≤ up.value ∧
      Keltner.Inv P (hist ++ [k.trClose s.prev_close]) s' := by
  obtain ⟨κ, s', hv', hinv, _⟩ := Keltner.vals_of_next k h hv hm
  exact ⟨_, _, _, s', hv', band_le (hinv.atr_nonneg _) h.sigma.le x, hinv⟩

/-- Envelopes: with a non-negative average and `k > 0` the lower envelope is not above the upper one -/
theorem C12_envelopes_order (v kk : ℚ) (hv : 0 ≤ v) (hk : 0 < kk) : v * (1 - kk) ≤ v * (1 + kk) :=
  mul_le_mul_of_nonneg_left (by linarith) hv

/-- MeanAbsDev is never negative, on every stream -/
theorem C12_mean_abs_dev_nonneg {P n : Nat} (v : ℚ) (hn0 : 0 < n) (hn : n ≤ P - 1) (xs : List ℚ) :
    ∃ s0 outs s', MeanAbsDev.new P n v = .ok s0 ∧ runM MeanAbsDev.next s0 xs = .ok (outs, s') ∧
      outs.length = xs.length ∧ ∀ i (hi : i < outs.length), 0 ≤ outs[i] := by
  obtain ⟨s0, os, s', h1, h2, h3, h4⟩ := C02.C02_mean_abs_dev (P := P) v hn0 hn xs
  exact ⟨s0, os, s', h1, h2, h3, fun i hi => (h4 i hi).2⟩

/-- TSI method (hence TrueStrengthIndex / SMIErgodic value 0): in [−1, 1] on every stream, at every step -/
theorem C12_tsi_range (short long : Nat) (hs : 0 < short) (hl : 0 < long) (v : ℚ) (xs : List ℚ) :
    -1 ≤ Spec.tsi short long v xs ∧ Spec.tsi short long v xs ≤ 1 := tsi_range short long hs hl v xs

/-- Chaikin money flow, every invariant state and every candle with low ≤ close ≤ high, volume ≥ 0: |Σ CLV·volume| ≤ Σ volume
    over the same window, so the value is in [−1, 1] wherever the total volume is not zero -/
theorem C12_cmf_range {P : Nat} {hist : List (Candle ℚ)} {s : CMF} (k : Candle ℚ) (h : CMF.Inv P hist s) (hk : goodCandle k) :
    ∃ num den s', s.vals k = .ok ([.quot num den (s.size : ℚ) (s.size : ℚ) .vol [] none], s') ∧
      CMF.Inv P (hist ++ [k]) s' ∧ s'.size = s.size ∧
      num = ((lastN s.size (hist ++ [k])).map fun c => c.clv * c.volume).sum ∧
      den = ((lastN s.size (hist ++ [k])).map fun c => c.volume).sum ∧
      |num| ≤ den ∧ (den ≠ 0 → -1 ≤ num / den ∧ num / den ≤ 1) := by
  obtain ⟨s', hv, hi', hsz⟩ := CMF.vals_spec k h hk
  have hle := hi'.abs_num_le s.size
  exact ⟨_, _, s', hv, hi', hsz, rfl, rfl, hle, fun _ => div_mem_sym_unit hle⟩

/-- Money-flow index over whole streams: from the constructor, for every stream of candles with non-negative volume, no
    step panics and the value is in [0, 1] at every step (the flows are sums of non-negative per-candle flows over the
    last `period` candles, which is the invariant) -/
theorem C12_mfi_reachable {P period : Nat} (zone : ℚ) (c0 : Candle ℚ) (s0 : MFI) (h0 : MFI.init P period zone c0 = .ok s0)
    (cs : List (Candle ℚ)) (hv : ∀ c ∈ cs, 0 ≤ c.volume) :
    ∃ outs s', runM MFI.vals s0 cs = .ok (outs, s') ∧ outs.length = cs.length ∧
      ∀ o ∈ outs, ∃ v, o = [.exact (1 - zone), v, .exact zone] ∧ 0 ≤ v.value ∧ v.value ≤ 1 := by
  obtain ⟨hinv, _, hz⟩ := MFI.init_inv zone c0 s0 h0
  refine runM_from_mem MFI.vals (fun c => 0 ≤ c.volume)
    (fun H s => MFI.Inv P c0 (List.replicate period c0 ++ H) s ∧ s.zone = zone) _ ⟨by simpa using hinv, hz⟩ ?_ cs hv
  intro H s x hx ⟨hi, hzz⟩
  obtain ⟨v, s', hv, hi', hz', _, _, _, h1, h2⟩ := MFI.vals_spec x hi hx
  exact ⟨_, s', hv, ⟨by rw [← List.append_assoc]; exact hi', hz'.trans hzz⟩, v, by rw [hzz], h1, h2⟩

/-- TrendStrengthIndex (documented range [−1, 1]) over whole streams: from the constructor, at every step the value is
    `p/√q` with `p² ≤ q` (Cauchy–Schwarz between positions and window), so its square is at most 1 wherever the radicand
    is positive; no step panics -/
theorem C12_trend_strength_range {P period ro : Nat} (zone : ℚ) (source : Source) (src0 : ℚ) (s0 : TSInd)
    (h0 : TSInd.init P period zone ro source src0 = .ok s0) (xs : List ℚ) :
    ∃ outs s', runM TSInd.vals s0 xs = .ok (outs, s') ∧ outs.length = xs.length ∧
      ∀ i (hi : i < outs.length), ∃ p q κn κd, outs[i] = [.sqrtQuot p q κn κd] ∧ p ^ 2 ≤ q := by
  obtain ⟨hinv, hc, _⟩ := TSInd.init_inv zone source src0 s0 h0
  refine runM_from TSInd.vals
    (fun h s => TSInd.Inv P (List.replicate period src0 ++ h) s ∧ TSInd.Consts s)
    (fun _ o => ∃ p q κn κd, o = [.sqrtQuot p q κn κd] ∧ p ^ 2 ≤ q) ⟨by simpa using hinv, hc⟩ ?_ xs
  rintro h s x ⟨hi, hcs⟩
  obtain ⟨p, q, κn, κd, s', hv, hle, hi', hc'⟩ := TSInd.vals_sq_le x hi hcs
  exact ⟨_, s', hv, ⟨by rw [← List.append_assoc]; exact hi', hc'⟩, p, q, κn, κd, rfl, hle⟩

/-- Stochastic oscillator with hull-preserving averages (C15: every kind but HMA, DEMA, TEMA, LinReg; `C12_hull_kinds` gives
    the two default kinds): both lines in [0, 1] after every step from a state whose histories are in [0, 1] — an
    inductive invariant, so in every reachable state -/
theorem C12_stochastic_reachable {P : Nat} {g1 g2 : List ℚ → ℚ} {highs lows krs f1s : List ℚ} {s : Stoch} (k : Candle ℚ) (v0 : ℚ)
    (h : Stoch.Inv P g1 g2 highs lows krs f1s s) (hv0 : 0 ≤ v0 ∧ v0 ≤ 1) (hg1 : HullFn v0 g1) (hg2 : HullFn v0 g2)
    (hk : Stoch.In01 krs) (hf : Stoch.In01 f1s) (hl : k.low ≤ k.close) (hh : k.close ≤ k.high) :
    ∃ v1 v2 kr s', s.vals k none = .ok ([v1, v2], s') ∧
      0 ≤ v1.value ∧ v1.value ≤ 1 ∧ 0 ≤ v2.value ∧ v2.value ≤ 1 ∧
      Stoch.Inv P g1 g2 (highs ++ [k.high]) (lows ++ [k.low]) (krs ++ [kr]) (f1s ++ [v1.value]) s' ∧
      Stoch.In01 (krs ++ [kr]) ∧ Stoch.In01 (f1s ++ [v1.value]) := Stoch.range_step k v0 h hv0 hg1 hg2 hk hf hl hh

/-- RSI with hull-preserving averages: value in [0, 1] in every reachable state (gains ≥ 0, losses ≤ 0 is inductive) -/
theorem C12_rsi_reachable {fp fn : List ℚ → ℚ} {gains losses : List ℚ} {s : RSI} (k : Candle ℚ)
    (hp : Realises fp s.posma gains) (hn : Realises fn s.negma losses) (hfp : HullFn 0 fp) (hfn : HullFn 0 fn)
    (hg : ∀ x ∈ gains, 0 ≤ x) (hl : ∀ x ∈ losses, x ≤ 0) :
    ∃ v s' g l, s.vals k = .ok ([v], s') ∧ 0 ≤ v.value ∧ v.value ≤ 1 ∧
      Realises fp s'.posma (gains ++ [g]) ∧ Realises fn s'.negma (losses ++ [l]) ∧
      (∀ x ∈ gains ++ [g], 0 ≤ x) ∧ (∀ x ∈ losses ++ [l], x ≤ 0) := by
  obtain ⟨s', hv, r1, r2, _⟩ := RSI.vals_spec k hp hn
  refine ⟨_, s', _, _, hv, (cquot_half_range _ _ _ _ _ _).1, (cquot_half_range _ _ _ _ _ _).2, r1, r2,
    forall_mem_snoc hg ?_, forall_mem_snoc hl ?_⟩
  · rw [smax_eq_max]; exact le_max_right _ _
  · rw [smin_eq_min]; exact min_le_right _ _

/-- the realised SMA, EMA, WMA and RMA are hull-preserving (their realisation theorems are in C05) -/
theorem C12_hull_kinds (n : Nat) (hn : 0 < n) (v a : ℚ) (h0 : 0 ≤ a) (h1 : a ≤ 1) :
    HullFn v (fun h => Spec.mean n (lastN n (history n v h))) ∧ HullFn v (fun h => Spec.emaRec a v h) ∧
    HullFn v (fun h => Spec.wma n v h) ∧ HullFn v (fun h => Spec.emaRec (1 / (n : ℚ)) v h) :=
  have ⟨r0, r1⟩ := rma_alpha_range (K := ℚ) n hn
  ⟨(sma_average n hn).hull v, emaRec_hull a h0 h1 v, (wma_average n hn).hull v, emaRec_hull _ r0 r1 v⟩

/-- Chaikin money flow over whole streams, from its constructor: candles with low ≤ close ≤ high and volume ≥ 0 — no step
    panics, |Σ CLV·volume| ≤ Σ volume, value in [−1, 1] wherever the window's total volume is not zero -/
theorem C12_cmf_reachable {P size : Nat} (k0 : Candle ℚ) (hk0 : goodCandle k0) (s0 : CMF) (h0 : CMF.init P size k0 = .ok s0)
    (cs : List (Candle ℚ)) (hg : ∀ c ∈ cs, goodCandle c) :
    ∃ outs s', runM CMF.vals s0 cs = .ok (outs, s') ∧ outs.length = cs.length ∧
      ∀ o ∈ outs, ∃ num den κ1 κ2, o = [.quot num den κ1 κ2 .vol [] none] ∧ |num| ≤ den ∧
        (den ≠ 0 → -1 ≤ num / den ∧ num / den ≤ 1) := by
  refine runM_from_mem CMF.vals goodCandle (fun H s => CMF.Inv P (List.replicate size k0 ++ H) s) _
    (by simpa using (CMF.init_inv k0 hk0 s0 h0).1) ?_ cs hg
  intro H s x hx hi
  obtain ⟨s', hv, hi', _⟩ := CMF.vals_spec x hi hx
  have hle := hi'.abs_num_le s.size
  exact ⟨_, s', hv, by rw [← List.append_assoc]; exact hi', _, _, _, _, rfl, hle, fun _ => div_mem_sym_unit hle⟩

/-- Stochastic oscillator over whole streams, from its constructor, for every pair of non-overshooting kinds (all but HMA,
    DEMA, TEMA, LinReg) and lengths the constructors accept: on every stream of candles with low ≤ close ≤ high no step
    panics and both lines are in [0, 1] at every step -/
theorem C12_stochastic_run {P : Nat} (c : StochCfg) (k0 : Candle ℚ) (hv : Stoch.validate c = true) (hp : c.period ≤ P - 1)
    (h1 : validLen P c.ma.kind c.ma.length) (h2 : validLen P c.signal.kind c.signal.length)
    (s1 : smoothKind c.ma.kind = true) (s2 : smoothKind c.signal.kind = true)
    (hk0 : k0.low ≤ k0.close ∧ k0.close ≤ k0.high) (cs : List (Candle ℚ)) (hcs : ∀ k ∈ cs, k.low ≤ k.close ∧ k.close ≤ k.high) :
    ∃ s0 outs s', Stoch.init P c k0 = .ok s0 ∧ runM (fun s k => s.vals k none) s0 cs = .ok (outs, s') ∧ outs.length = cs.length ∧
      ∀ o ∈ outs, ∃ v1 v2, o = [v1, v2] ∧ 0 ≤ v1.value ∧ v1.value ≤ 1 ∧ 0 ≤ v2.value ∧ v2.value ≤ 1 := by
  obtain ⟨s0, h0, _, hinv⟩ := Stoch.init_ok (P := P) c k0 hv hp h1 h2
  obtain ⟨os, s', hr⟩ := Stoch.run_range hinv (kRows_range k0.close k0.high k0.low hk0.1 hk0.2)
    (hullFn_of_kind _ _ _ s1 h1) (hullFn_of_kind _ _ _ s2 h2) (List.forall_mem_nil _) (List.forall_mem_nil _) cs hcs
  exact ⟨s0, os, s', h0, hr⟩

/-- every non-overshooting kind preserves the hull of the values it is given (the realised formula of the kind) -/
theorem C12_every_smooth_kind_hull {P : Nat} (k : MAKind) (n : Nat) (v : ℚ) (hk : smoothKind k = true) (hv : validLen P k n) :
    HullFn v (specOf k n v) := hullFn_of_kind k n v hk hv

/-- RSI over whole streams, from its constructor, for every kind of average, the overshooting ones included (since the
    `fix:` that clamps the quotient, 91f0f9b): on every candle stream no step panics and the value is in [0, 1] at every step -/
theorem C12_rsi_run_every_kind {P : Nat} (c : RSICfg) (k0 : Candle ℚ) (hv : RSI.validate c = true)
    (h1 : validLen P c.ma.kind c.ma.length) (cs : List (Candle ℚ)) :
    ∃ s0 outs s', RSI.init P c k0 = .ok s0 ∧ runM RSI.vals s0 cs = .ok (outs, s') ∧ outs.length = cs.length ∧
      ∀ i (hi : i < outs.length), ∃ v, outs[i] = [v] ∧ 0 ≤ v.value ∧ v.value ≤ 1 := by
  obtain ⟨s0, outs, s', h0, hr, hl, ho⟩ := RSI.run_value_range c k0 hv h1 cs
  exact ⟨s0, outs, s', h0, hr, hl, fun i hi => let ⟨v, e, _, r⟩ := ho i hi; ⟨v, e, r⟩⟩

/-- RSI over whole streams for the non-overshooting kinds: a special case of `C12_rsi_run_every_kind` (the hypothesis on
    the kind is not used) -/
theorem C12_rsi_run {P : Nat} (c : RSICfg) (k0 : Candle ℚ) (hv : RSI.validate c = true)
    (h1 : validLen P c.ma.kind c.ma.length) (s1 : smoothKind c.ma.kind = true) (cs : List (Candle ℚ)) :
    ∃ s0 outs s', RSI.init P c k0 = .ok s0 ∧ runM RSI.vals s0 cs = .ok (outs, s') ∧ outs.length = cs.length ∧
      ∀ i (hi : i < outs.length), ∃ v, outs[i] = [v] ∧ 0 ≤ v.value ∧ v.value ≤ 1 := C12_rsi_run_every_kind c k0 hv h1 cs

/-- a quotient the code clamps (RSI, MoneyFlowIndex: [0, 1]; ChandeMomentumOscillator: [−1, 1]) is in its range for ALL
    operands — whatever rounding residue the running sums hold, the exact guard value included -/
theorem C12_clamped_quotient_range (n d κn κd : ℚ) (sc : Scale) (g : List ℚ) (a lo hi : ℚ) (h : lo ≤ hi) (ha : lo ≤ a ∧ a ≤ hi) :
    lo ≤ (VExp.cquot n d κn κd sc g (some a) lo hi).value ∧ (VExp.cquot n d κn κd sc g (some a) lo hi).value ≤ hi :=
  cquot_range n d κn κd sc g a lo hi h ha

/-- the three clamped oscillators from ANY state — no invariant on the running sums / flows / averages is assumed, so the
    statement covers every content rounding can leave in them: a step that does not panic returns a value of the documented range -/
theorem C12_cmo_any_state (s : CMO) (k : Candle ℚ) (vs : List VExp) (s' : CMO) (h : s.vals k = .ok (vs, s')) :
    ∃ v, vs = [v] ∧ -1 ≤ v.value ∧ v.value ≤ 1 := by
  unfold CMO.vals at h
  obtain ⟨_, _, h⟩ := Except.bind_eq_ok h
  obtain ⟨_, _, h⟩ := Except.bind_eq_ok h
  cases h
  exact ⟨_, rfl, cquot_range _ _ _ _ _ _ 0 (-1) 1 (by norm_num) (by norm_num)⟩

theorem C12_mfi_any_state (s : MFI) (k : Candle ℚ) (vs : List VExp) (s' : MFI) (h : s.vals k = .ok (vs, s')) :
    ∃ v, vs = [.exact (1 - s.zone), v, .exact s.zone] ∧ 0 ≤ v.value ∧ v.value ≤ 1 := by
  unfold MFI.vals at h
  obtain ⟨_, _, h⟩ := Except.bind_eq_ok h
  cases h
  exact ⟨_, rfl, cquot_half_range _ _ _ _ _ _⟩

theorem C12_rsi_any_state (s : RSI) (k : Candle ℚ) (vs : List VExp) (s' : RSI) (h : s.vals k = .ok (vs, s')) :
    ∃ v, vs = [v] ∧ 0 ≤ v.value ∧ v.value ≤ 1 := by
  unfold RSI.vals at h
  obtain ⟨_, _, h⟩ := Except.bind_eq_ok h
  obtain ⟨_, _, h⟩ := Except.bind_eq_ok h
  cases h
  exact ⟨_, rfl, cquot_half_range _ _ _ _ _ _⟩

/-- Parabolic SAR over whole streams, from its constructor: on every stream of candles with low ≤ high the returned trend
    is ±1 and the returned SAR is on the far side of that step's candle at every step -/
theorem C12_sar_run (a b : ℚ) (k0 : Candle ℚ) (s0 : SAR) (h0 : SAR.init a b k0 = .ok s0) (cs : List (Candle ℚ))
    (hv : ∀ k ∈ cs, k.low ≤ k.high) :
    ∀ i (hi : i < cs.length), ∃ sar trend,
      (((SAR.run s0 cs).1[i]'(by rw [SAR.run_length]; exact hi)).1.map VExp.value) = [sar, trend] ∧
      (trend = 1 ∨ trend = -1) ∧ (trend = 1 → sar ≤ cs[i].low) ∧ (trend = -1 → cs[i].high ≤ sar) := by
  intro i hi
  obtain ⟨hval, _, t, up, dn⟩ := SAR.run_spec s0 (SAR.init_inv a b k0 s0 h0).1 cs i hi
  -- the trend is returned as a rational
  exact ⟨_, _, hval, t.imp (fun e => by rw [e, Int.cast_one]) (fun e => by rw [e, Int.cast_neg, Int.cast_one]),
    fun e => up (Int.cast_eq_one.mp e), fun e => dn (Int.cast_injective (by rw [e, Int.cast_neg, Int.cast_one]))⟩

/-- TrueStrengthIndex / SMIErgodic over whole streams, from the constructor, every accepted configuration whose smoothing
    average cannot overshoot: no step panics, TSI value and signal line in [−1, 1] at every step -/
theorem C12_tsi_indicator_run {P : Nat} (c : TSIxCfg) (smooth : MA) (ok : Bool) (k0 : Candle ℚ) (s0 : TSIx) (smi : Bool)
    (h0 : TSIx.init P c smooth ok k0 = .ok s0)
    (hs : validLen P smooth.kind smooth.length) (sm : smoothKind smooth.kind = true) (cs : List (Candle ℚ)) :
    ∃ outs s', runM (fun s k => s.vals k none smi) s0 cs = .ok (outs, s') ∧ outs.length = cs.length ∧
      ∀ o ∈ outs, ∃ v0 v1 rest, o = v0 :: v1 :: rest ∧ -1 ≤ v0.value ∧ v0.value ≤ 1 ∧ -1 ≤ v1.value ∧ v1.value ≤ 1 := by
  obtain ⟨aL, aS, aL0, aL1, aS0, aS1, hinv⟩ := TSIx.init_inv c smooth ok k0 s0 h0 hs
  exact TSIx.run_range smi hinv aL0 aL1 aS0 aS1 (hullFn_of_kind smooth.kind smooth.length 0 sm hs) (List.forall_mem_nil _) cs

/-- Envelopes over whole streams, from the constructor, every non-overshooting kind: on every stream of candles with a
    non-negative source price no step panics and upper ≥ lower at every step -/
theorem C12_envelopes_run {P : Nat} (c : EnvCfg) (k0 : Candle ℚ) (hv : Env.validate c = true)
    (h1 : validLen P c.ma.kind c.ma.length) (sm : smoothKind c.ma.kind = true) (hk0 : 0 ≤ k0.source c.source)
    (cs : List (Candle ℚ)) (hcs : ∀ k ∈ cs, 0 ≤ k.source c.source) :
    ∃ s0 outs s', Env.init P c k0 = .ok s0 ∧ runM Env.vals s0 cs = .ok (outs, s') ∧ outs.length = cs.length ∧
      ∀ o ∈ outs, ∃ up lo src2, o.map VExp.value = [up, lo, src2] ∧ lo ≤ up := by
  obtain ⟨s0, h0, rfl, rm, hk, hh, hl⟩ := Env.init_ok (P := P) c k0 hv h1
  obtain ⟨os, s', hr⟩ := Env.run_order rm (hullFn_of_kind _ _ (k0.source s0.cfg.source) sm h1) hk0 (List.forall_mem_nil _)
    hk hh hl cs hcs
  exact ⟨s0, os, s', h0, hr⟩

/-- Bollinger bands over whole streams, from the constructor: no step panics, the centre is the mean and the quantity under
    the square root is the sample variance of the last `avg_size` sources — non-negative at every step, hence
    upper ≥ middle ≥ lower (the bands are `middle ± sigma·sqrt(variance)`, sigma > 0) -/
theorem C12_bollinger_run {P : Nat} (c : BBCfg) (k0 : Candle ℚ) (hv : BB.validate P c = true) (cs : List (Candle ℚ)) :
    ∃ s0 outs s', BB.init P c k0 = .ok s0 ∧ runM BB.stepR s0 cs = .ok (outs, s') ∧ outs.length = cs.length ∧
      ∀ i (hi : i < outs.length),
        let w := lastN c.avg_size (history c.avg_size (k0.source c.source) ((cs.take (i + 1)).map fun k => k.source c.source))
        outs[i] = (Spec.mean c.avg_size w,
          (w.map fun x => (x - Spec.mean c.avg_size w) * (x - Spec.mean c.avg_size w)).sum / ((c.avg_size - 1 : Nat) : ℚ)) ∧
        0 ≤ (outs[i]).2 := by
  obtain ⟨s0, h0, rfl, hn2, ia, ib⟩ := BB.init_ok c k0 hv
  obtain ⟨os, s', hr⟩ := BB.run_spec hn2 ia ib cs
  exact ⟨s0, os, s', h0, by simpa only [history, List.append_nil] using hr⟩

/-- Keltner channel over whole streams (candles with low ≤ high), every accepted configuration of the middle average: no step
    panics and the lower band is never above the upper band -/
theorem C12_keltner_run {P : Nat} (c : KeltnerCfg) (k0 : Candle ℚ) (hv : Keltner.validate c = true)
    (h1 : validLen P c.ma.kind c.ma.length) (hp : c.ma.length ≤ P - 1) (hk0 : k0.low ≤ k0.high)
    (cs : List (Candle ℚ)) (hcs : ∀ k ∈ cs, k.low ≤ k.high) :
    ∃ s0 outs s', Keltner.init P c k0 = .ok s0 ∧ runM Keltner.vals s0 cs = .ok (outs, s') ∧ outs.length = cs.length ∧
      ∀ o ∈ outs, ∃ src up lo, o.map VExp.value = [src, up, lo] ∧ lo ≤ up := by
  obtain ⟨s0, h0, hc0, hinv0, rm⟩ := Keltner.init_ok c k0 hv h1 hp hk0
  obtain ⟨os, s', hr⟩ := runM_from_mem Keltner.vals (fun k : Candle ℚ => k.low ≤ k.high)
    (fun _ s => s.cfg = c ∧ ∃ hist srcs, Keltner.Inv P hist s ∧
      Realises (specOf c.ma.kind c.ma.length (k0.source c.source)) s.ma srcs)
    (fun o => ∃ src up lo, o.map VExp.value = [src, up, lo] ∧ lo ≤ up) ⟨hc0, _, _, hinv0, rm⟩
    (by
      rintro _ s k hk ⟨hc, hist, srcs, hi, hr⟩
      obtain ⟨m, hm, rm⟩ := hr.step (k.source s.cfg.source)
      obtain ⟨κ, s1, hvv1, hi1, rfl, _, hc1⟩ := Keltner.vals_of_next k hi hk hm
      exact ⟨_, s1, hvv1, ⟨hc1.trans hc, _, _, hi1, hc ▸ rm⟩, _, _, _, rfl, band_le (hi1.atr_nonneg _) hi.sigma.le _⟩)
    cs hcs
  exact ⟨s0, os, s', h0, hr⟩

/-- Chande momentum oscillator over whole candle streams, from its constructor: no step panics, value in [−1, 1] at every step -/
theorem C12_cmo_run {P : Nat} (c : CMOCfg) (k0 : Candle ℚ) (s0 : CMO) (h0 : CMO.init P c k0 = .ok s0) (cs : List (Candle ℚ)) :
    ∃ outs s', runM CMO.vals s0 cs = .ok (outs, s') ∧ outs.length = cs.length ∧
      ∀ i (hi : i < outs.length), ∃ v, outs[i] = [v] ∧ -1 ≤ v.value ∧ v.value ≤ 1 := by
  refine runM_from CMO.vals (fun _ s => CMO.Inv P s) (fun _ o => ∃ v, o = [v] ∧ -1 ≤ v.value ∧ v.value ≤ 1)
    (CMO.init_inv c k0 s0 h0) ?_ cs
  rintro _ s k hi
  obtain ⟨v, s1, hv, hi1, _, _, _, a, b⟩ := CMO.vals_spec k hi
  exact ⟨_, s1, hv, hi1, v, rfl, a, b⟩

/-- ADX over whole candle streams, from its constructor, every accepted configuration whose final average cannot
    overshoot: no step panics and the ADX value is in [0, 1] at every step — with no assumption on the candles or on the
    sign of the directional quotients (the `fix:` in `adx()` made the input of the final average a value of [0, 1]
    whatever rounding residue the windowed averages hold: `C12_adx_input_unit`) -/
theorem C12_adx_run {P : Nat} (m1 m2 : MA) (period1 : Nat) (zone : ℚ) (k0 : Candle ℚ) (s0 : ADX)
    (h1 : validLen P m1.kind m1.length) (h2 : validLen P m2.kind m2.length) (hs : smoothKind m2.kind = true)
    (h0 : ADX.init P m1 m2 period1 zone k0 = .ok s0) (cs : List (Candle ℚ)) :
    ∃ outs s', runM ADX.step s0 cs = .ok (outs, s') ∧ outs.length = cs.length ∧
      ∀ i (hi : i < outs.length), ∃ a p m, (outs[i]).map VExp.value = [a, p, m] ∧ 0 ≤ a ∧ a ≤ 1 := by
  obtain ⟨outs, s', hr, hl, ho⟩ := ADX.run_range m1 m2 period1 zone k0 s0 h1 h2 h0 cs
  exact ⟨outs, s', hr, hl, fun i hi => let ⟨a, p, m, e, r⟩ := ho i hi; ⟨a, p, m, e, r hs⟩⟩

theorem C12_adx_input_unit (plus minus : ℚ) : 0 ≤ ADX.tOf plus minus ∧ ADX.tOf plus minus ≤ 1 := ADX.tOf_range plus minus

/-- Aroon over whole candle streams, from its constructor: no step panics, both values in [0, 1] at every step -/
theorem C12_aroon_run {P : Nat} (c : AroonCfg) (k0 : Candle ℚ) (hv : Aroon.validate P c = true) (cs : List (Candle ℚ)) :
    ∃ s0 outs s', Aroon.init P c k0 = .ok s0 ∧ runM (Aroon.valsR P) s0 cs = .ok (outs, s') ∧ outs.length = cs.length ∧
      ∀ i (hi : i < outs.length), ∃ up dn, (outs[i]).map VExp.value = [up, dn] ∧ 0 ≤ up ∧ up ≤ 1 ∧ 0 ≤ dn ∧ dn ≤ 1 := by
  obtain ⟨s0, h0, _, ih, il⟩ := Aroon.init_ok c k0 hv
  obtain ⟨os, s', hr⟩ := Aroon.run_range ih il cs
  exact ⟨s0, os, s', h0, hr⟩

/-- Price channel and Donchian channel over whole streams of candles with low ≤ high, from the constructor: no step panics;
    price channel upper ≥ lower (sigma > 0), Donchian lowest ≤ middle ≤ highest, at every step -/
theorem C12_channels_order_run {P n : Nat} (σ : ℚ) (hσ : 0 < σ) (k0 : Candle ℚ) (hn1 : 1 < n) (hn : n ≤ P - 1)
    (cs : List (Candle ℚ)) (hcs : ∀ k ∈ cs, k.low ≤ k.high) :
    ∃ s0, Channel.init P n σ true k0 = .ok s0 ∧
      (∃ outs s', runM (fun s k => Channel.priceChannelVals s k) s0 cs = .ok (outs, s') ∧ outs.length = cs.length ∧
        ∀ o ∈ outs, ∃ up lo, o.map VExp.value = [up, lo] ∧ lo ≤ up) ∧
      (∃ outs s', runM (fun s k => Channel.donchianVals s k) s0 cs = .ok (outs, s') ∧ outs.length = cs.length ∧
        ∀ o ∈ outs, ∃ lo mid hi, o.map VExp.value = [lo, mid, hi] ∧ lo ≤ mid ∧ mid ≤ hi) := by
  obtain ⟨s0, h0, hp, hs, hinv⟩ := Channel.init_ok (P := P) σ k0 hn1 hn
  refine ⟨s0, h0, ?_, ?_⟩
  · refine runM_from_mem (fun s k => Channel.priceChannelVals s k) (fun k : Candle ℚ => k.low ≤ k.high)
      (fun _ s => s.sigma = σ ∧ ∃ highs lows, Channel.Inv P highs lows s) _ ⟨hs, _, _, hinv⟩ ?_ cs hcs
    rintro _ s k hk ⟨hsg, highs, lows, hi⟩
    obtain ⟨hiV, lo, s1, hv, st⟩ := Channel.priceChannel_spec k hi
    -- the half-width `hiV − (hiV + lo)/2` is not negative
    exact ⟨_, s1, hv, ⟨st.sigma.trans hsg, _, _, st.inv⟩, _, _, rfl,
      band_le (sub_nonneg.2 (midpoint_between (st.le hk)).2) (hsg ▸ hσ.le) _⟩
  · refine runM_from_mem (fun s k => Channel.donchianVals s k) (fun k : Candle ℚ => k.low ≤ k.high)
      (fun _ s => ∃ highs lows, Channel.Inv P highs lows s) _ ⟨_, _, hinv⟩ ?_ cs hcs
    rintro _ s k hk ⟨highs, lows, hi⟩
    obtain ⟨hiV, lo, s1, hv, st⟩ := Channel.donchian_spec k hi
    exact ⟨_, s1, hv, ⟨_, _, st.inv⟩, lo, (hiV + lo) * half, hiV, rfl, midpoint_between (st.le hk)⟩

theorem C12_tr_nonneg (c : Candle ℚ) (p : ℚ) (h : c.low ≤ c.high) : 0 ≤ c.trClose p := c.trClose_nonneg p h

theorem C12_clv_range (c : Candle ℚ) (h1 : c.low ≤ c.close) (h2 : c.close ≤ c.high) : -1 ≤ c.clv ∧ c.clv ≤ 1 :=
  Candle.clv_range c h1 h2

/-! non-vacuity: the hypotheses of the range lemmas are met by a non-trivial state -/
example : (0 : ℚ) ≤ (if (3 : ℚ) + 1 = 0 then half else 3 / (3 + 1)) ∧ (if (3 : ℚ) + 1 = 0 then half else 3 / (3 + 1)) ≤ 1 :=
  C12_rsi_range 3 1 (by norm_num) (by norm_num)

end Yata.C12

#print axioms Yata.C12.C12_rsi_range
#print axioms Yata.C12.C12_mfi_range
#print axioms Yata.C12.C12_diff_ratio_range
#print axioms Yata.C12.C12_cmo
#print axioms Yata.C12.C12_stoch_k_range
#print axioms Yata.C12.C12_aroon_range
#print axioms Yata.C12.C12_channel_contains
#print axioms Yata.C12.C12_channel_reachable
#print axioms Yata.C12.C12_sar_side
#print axioms Yata.C12.C12_bollinger_var_nonneg
#print axioms Yata.C12.C12_stdev_nonneg
#print axioms Yata.C12.C12_tr_nonneg
#print axioms Yata.C12.C12_clv_range
#print axioms Yata.C12.C12_linear_volatility_nonneg
#print axioms Yata.C12.C12_keltner_order
#print axioms Yata.C12.C12_envelopes_order
#print axioms Yata.C12.C12_mean_abs_dev_nonneg
#print axioms Yata.C12.C12_tsi_range
#print axioms Yata.C12.C12_cmf_range
#print axioms Yata.C12.C12_mfi_reachable
#print axioms Yata.C12.C12_trend_strength_range
#print axioms Yata.C12.C12_stochastic_reachable
#print axioms Yata.C12.C12_rsi_reachable
#print axioms Yata.C12.C12_hull_kinds
#print axioms Yata.C12.C12_cmf_reachable
#print axioms Yata.C12.C12_stochastic_run
#print axioms Yata.C12.C12_every_smooth_kind_hull
#print axioms Yata.C12.C12_rsi_run
#print axioms Yata.C12.C12_bollinger_run
#print axioms Yata.C12.C12_keltner_run
#print axioms Yata.C12.C12_cmo_run
#print axioms Yata.C12.C12_aroon_run
#print axioms Yata.C12.C12_channels_order_run
#print axioms Yata.C12.C12_adx_run
#print axioms Yata.C12.C12_adx_input_unit
#print axioms Yata.C12.C12_rsi_run_every_kind
#print axioms Yata.C12.C12_clamped_quotient_range
#print axioms Yata.C12.C12_cmo_any_state
#print axioms Yata.C12.C12_mfi_any_state
#print axioms Yata.C12.C12_rsi_any_state
#print axioms Yata.C12.C12_sar_run
#print axioms Yata.C12.C12_tsi_indicator_run
#print axioms Yata.C12.C12_envelopes_run
