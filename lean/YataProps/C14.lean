/-
  C14 — Crossing and reversal detectors are definitional for any stream length.

  Proved (every ordered field, every pair of streams, every length):
    * CrossAbove fires at a step exactly when the previous difference value−base (the
      construction difference before the first step) was negative and the current one is
      non-negative; CrossUnder exactly in the mirrored case;
    * Cross is their signed combination (the two never fire together) and swapping the two
      series negates its output at every step.
    * UpperReversalSignal (positions in unbounded `Nat` as in the repaired code), every `left, right ≥ 1`, every stream:
      after step `t` the remembered pair is THE newest maximum of the positions `max(0, t+1−(left+right+1)) … t`
      (`LastMaxAt`: maximal, everything newer strictly smaller — unique, `C14_newest_max_unique`), both on the fast
      path and after the rescan that runs when the old maximum has left the window; the signal fires iff `t ≥ right`
      and that position is `t − right` (`C14_upper_reversal`). The first input competes with the construction value
      (the constant prehistory occupies position 0). LowerReversalSignal is the mirror image (`C14_lower_reversal`);
      `ReversalSignal = lower − upper` (`C14_reversal_is_lower_minus_upper`).
-/
import YataProofs.Cross
import YataProofs.ReversalLow
namespace Yata.C14
open Yata
variable {K : Type} [Field K] [LinearOrder K] [IsStrictOrderedRing K]

theorem C14_cross_above (init : K × K) (xs : List (K × K)) :
    ∃ outs s', runM (liftNext CrossAbove.next) (CrossAbove.new init) xs = .ok (outs, s') ∧
      outs.length = xs.length ∧
      ∀ i (hi : i < outs.length) (hx : i < xs.length),
        outs[i] = if crossAboveRule (lastDelta init (xs.take i)) (xs[i].1 - xs[i].2)
                  then Action.buyAll else Action.none :=
  delta_run_spec crossAboveRule CrossAbove.last_delta CrossAbove.next CrossAbove.next_def init _ rfl xs

theorem C14_cross_under (init : K × K) (xs : List (K × K)) :
    ∃ outs s', runM (liftNext CrossUnder.next) (CrossUnder.new init) xs = .ok (outs, s') ∧
      outs.length = xs.length ∧
      ∀ i (hi : i < outs.length) (hx : i < xs.length),
        outs[i] = if crossUnderRule (lastDelta init (xs.take i)) (xs[i].1 - xs[i].2)
                  then Action.buyAll else Action.none :=
  delta_run_spec crossUnderRule CrossUnder.last_delta CrossUnder.next CrossUnder.next_def init _ rfl xs

/-- Cross = (up as i8) − (down as i8); the two rules are mutually exclusive -/
theorem C14_cross_step (s : Cross K) (v : K × K) :
    (s.next v).1 = Action.ofI8 ((if crossAboveRule s.up.last_delta (v.1 - v.2) then 1 else 0) -
                                (if crossUnderRule s.down.last_delta (v.1 - v.2) then 1 else 0)) ∧
    ¬ (crossAboveRule s.up.last_delta (v.1 - v.2) = true ∧ crossUnderRule s.up.last_delta (v.1 - v.2) = true) :=
  ⟨(Cross.next_def s v).1, cross_rules_exclusive _ _⟩

/-- swapping the two series negates the output of every step (mirror states stay mirror states);
    the hypotheses hold for `Cross.new (a₀, b₀)` against `Cross.new (b₀, a₀)` (`C14_cross_antisymmetric_init`) and are
    preserved -/
theorem C14_cross_antisymmetric (s t : Cross K) (a b : K) (hs : s.up.last_delta = s.down.last_delta)
    (hu : t.up.last_delta = -s.up.last_delta) (hd : t.down.last_delta = -s.down.last_delta) :
    (t.next (b, a)).1 = ((s.next (a, b)).1).neg ∧
    (t.next (b, a)).2.up.last_delta = -(s.next (a, b)).2.up.last_delta ∧
    (t.next (b, a)).2.down.last_delta = -(s.next (a, b)).2.down.last_delta ∧
    (s.next (a, b)).2.up.last_delta = (s.next (a, b)).2.down.last_delta := by
  obtain ⟨h1, h2, h3⟩ := Cross.next_def s (a, b)
  obtain ⟨g1, g2, g3⟩ := Cross.next_def t (b, a)
  refine ⟨?_, by rw [g2, h2, neg_sub], by rw [g3, h3, neg_sub], rfl⟩
  -- the swapped differences are the negated ones, which exchanges the two rules
  rw [g1, h1, hu, hd, hs, ← neg_sub a b, crossAboveRule_neg, crossUnderRule_neg, ← ofI8_neg, neg_sub]

theorem C14_cross_antisymmetric_init (a b : K) :
    (Cross.new (b, a)).up.last_delta = -(Cross.new (a, b)).up.last_delta ∧
    (Cross.new (b, a)).down.last_delta = -(Cross.new (a, b)).down.last_delta ∧
    (Cross.new (a, b)).up.last_delta = (Cross.new (a, b)).down.last_delta := by
  simp [Cross.new, CrossAbove.new, CrossUnder.new]

theorem C14_reversal_is_lower_minus_upper (s : ReversalSignal K) (x : K) {a b : Action}
    {lo : LowerReversalSignal K} {hi : UpperReversalSignal K}
    (hl : s.low.next x = .ok (a, lo)) (hh : s.high.next x = .ok (b, hi)) :
    s.next x = .ok (Action.sub a b, { high := hi, low := lo }) := by
  simp [ReversalSignal.next, hl, hh]

theorem C14_upper_reversal {P left right : Nat} (v : K) (hl : 0 < left) (hr : 0 < right) (hsum : left + right + 1 ≤ P - 1)
    (xs : List K) :
    ∃ s0 outs s', UpperReversalSignal.new P left right v = .ok s0 ∧ runM UpperReversalSignal.next s0 xs = .ok (outs, s') ∧
      outs.length = xs.length ∧
      ∀ t (ht : t < outs.length), ∃ mi mv,
        LastMaxAt mi mv (UpperReversalSignal.firstPos (left + right + 1) (t + 1))
          ((virt v (xs.take (t + 1))).drop (UpperReversalSignal.firstPos (left + right + 1) (t + 1))) ∧
        outs[t] = (if t ≥ right ∧ mi = t - right then Action.buyAll else Action.none) :=
  UpperReversalSignal.run_spec v hl hr hsum xs

theorem C14_lower_reversal {P left right : Nat} (v : K) (hl : 0 < left) (hr : 0 < right) (hsum : left + right + 1 ≤ P - 1)
    (xs : List K) :
    ∃ s0 outs s', LowerReversalSignal.new P left right v = .ok s0 ∧ runM LowerReversalSignal.next s0 xs = .ok (outs, s') ∧
      outs.length = xs.length ∧
      ∀ t (ht : t < outs.length), ∃ mi mv,
        LastMinAt mi mv (LowerReversalSignal.firstPos (left + right + 1) (t + 1))
          ((virtMin v (xs.take (t + 1))).drop (LowerReversalSignal.firstPos (left + right + 1) (t + 1))) ∧
        outs[t] = (if t ≥ right ∧ mi = t - right then Action.buyAll else Action.none) := by
  -- the lower detector is the upper one over the reversed order
  obtain ⟨s0, outs, s', hn, hrun, hlen, h⟩ := UpperReversalSignal.run_spec (K := Kᵒᵈ) (P := P) v hl hr hsum xs
  refine ⟨.ofUpper s0, outs, .ofUpper s', by rw [LowerReversalSignal.new_eq_dual, hn]; rfl, ?_, hlen, fun t ht => ?_⟩
  · exact (runM_map_state (ι := Kᵒᵈ) UpperReversalSignal.next (LowerReversalSignal.next (α := K)) .ofUpper
      (fun s x => LowerReversalSignal.next_eq_dual (.ofUpper s) x) s0 xs).trans (congrArg _ hrun)
  · obtain ⟨mi, mv, hm, ho⟩ := h t ht
    exact ⟨mi, mv, by rw [virtMin_eq_dual]; exact hm, ho⟩

/-- `LastMaxAt` (`LastMinAt` below) determines the pair, so `C14_upper_reversal` says at which steps the signal fires -/
theorem C14_newest_max_unique {i i' : Nat} {v v' : K} {off : Nat} {l : List K}
    (h : LastMaxAt i v off l) (h' : LastMaxAt i' v' off l) : i = i' ∧ v = v' := h.unique h'

theorem C14_newest_min_unique {i i' : Nat} {v v' : K} {off : Nat} {l : List K}
    (h : LastMinAt i v off l) (h' : LastMinAt i' v' off l) : i = i' ∧ v = v' := h.unique h'

/-! non-vacuity: a touch (difference exactly zero) after a negative difference fires CrossAbove -/
example : ((CrossAbove.new ((1 : ℚ), 2)).next (3, 3)).1 = Action.buyAll := by
  simp [CrossAbove.new, CrossAbove.next, CrossAbove.binary, Action.ofI8]

end Yata.C14

#print axioms Yata.C14.C14_cross_above
#print axioms Yata.C14.C14_cross_under
#print axioms Yata.C14.C14_cross_step
#print axioms Yata.C14.C14_cross_antisymmetric
#print axioms Yata.C14.C14_cross_antisymmetric_init
#print axioms Yata.C14.C14_reversal_is_lower_minus_upper
#print axioms Yata.C14.C14_upper_reversal
#print axioms Yata.C14.C14_lower_reversal
#print axioms Yata.C14.C14_newest_max_unique
#print axioms Yata.C14.C14_newest_min_unique
