/-
  C08 — The construction value acts as an infinite constant prehistory.

  The machines are proved equal to from-scratch specs over the history `replicate n v ++ inputs` (C02, C03, C04); the
  theorems here are about those specs, for every length, value and stream, and combine with `C02_*`/`C03_*`/`C04_*`
  (model output = spec) by rewriting:
    * prefix invariance: extra leading copies of the construction value leave the window — hence every sliding-window
      spec — unchanged (`C08_window_prefix`, `C08_specs_prefix` for SMA/WMA/Integral, `C08_window_specs_prefix` for SWMA,
      LinReg, SMM, Conv); the exponential recurrences likewise (`C08_ema_prefix`);
    * constant input gives the constant output: mean-type specs return `v`, the windowed sum `n·v`, EMA/DMA/TMA return `v`,
      DEMA/TEMA reproduce the constant exactly, Highest/Lowest return the (bit pattern of the) value itself, crossing
      detectors stay silent;
    * every other moving-average kind reproduces a constant exactly (`C08_all_kinds_constant`: SWMA, TRIMA, SMM, Vidya, Conv
      with non-negative weights from their hull theorems, HMA and LinReg from affine equivariance with a = 0).
  Indicators are covered by the correspondence run (`indapi --which constant`, method suites with leading repetitions):
  constant input and prefix invariance checked on the real code for every indicator and several configurations.
-/
import YataProofs.Constant
import YataProofs.MALaws2
import YataProofs.SMMLaws
import YataProofs.Cross
namespace Yata.C08
open Yata
variable {α : Type} {K : Type} [Field K] [LinearOrder K] [IsStrictOrderedRing K]

theorem C08_window_prefix (n j : Nat) (v : α) (xs : List α) :
    lastN n (history n v (List.replicate j v ++ xs)) = lastN n (history n v xs) := win_prefix_invariant n j v xs

theorem C08_window_constant (n k : Nat) (v : α) :
    lastN n (history n v (List.replicate k v)) = List.replicate n v := win_constant n k v

theorem C08_specs_prefix (n j : Nat) (v : K) (xs : List K) :
    Spec.sma n v (List.replicate j v ++ xs) = Spec.sma n v xs ∧
    Spec.wma n v (List.replicate j v ++ xs) = Spec.wma n v xs ∧
    Spec.integral n v (List.replicate j v ++ xs) = Spec.integral n v xs :=
  have e := win_prefix_invariant n j v xs
  ⟨congrArg (Spec.mean n) e, congrArg (fun l => Spec.rampSum 1 l / ((n * (n + 1) / 2 : Nat) : K)) e, congrArg List.sum e⟩

theorem C08_specs_constant (n k : Nat) (hn : 0 < n) (v : K) :
    Spec.sma n v (List.replicate k v) = v ∧ Spec.wma n v (List.replicate k v) = v ∧
    Spec.integral n v (List.replicate k v) = (n : K) * v :=
  ⟨sma_constant n k hn v, wma_constant n k hn v, integral_constant n k v⟩

theorem C08_ema_prefix (a v : K) (j : Nat) (xs : List K) :
    Spec.emaRec a v (List.replicate j v ++ xs) = Spec.emaRec a v xs := by
  rw [Spec.emaRec_append, emaRec_constant]

theorem C08_ema_family_constant (a v : K) (k : Nat) :
    e1 a v (List.replicate k v) = v ∧ e2 a v (List.replicate k v) = v ∧ e3 a v (List.replicate k v) = v ∧
    2 * e1 a v (List.replicate k v) - e2 a v (List.replicate k v) = v ∧
    3 * (e1 a v (List.replicate k v) - e2 a v (List.replicate k v)) + e3 a v (List.replicate k v) = v :=
  ⟨e1_constant a v k, e2_constant a v k, e3_constant a v k, by rw [e1_constant, e2_constant]; ring,
   by rw [e1_constant, e2_constant, e3_constant]; ring⟩

/-- Highest / Lowest: C04 proves their outputs `IsMaxOf` / `IsMinOf` of the window, which on a constant window is the value
    itself -/
theorem C08_selection_constant {β : Type} [FloatLike β K] {n : Nat} {v m : β} :
    (IsMaxOf m (List.replicate n v) → m = v) ∧ (IsMinOf m (List.replicate n v) → m = v) :=
  ⟨fun h => List.eq_of_mem_replicate h.1, fun h => List.eq_of_mem_replicate h.1⟩

theorem C08_all_kinds_constant [DecidableEq K] (n k : Nat) (v : K) :
    (2 ≤ n → Spec.swma n v (List.replicate k v) = v) ∧
    (0 < n → Spec.trima n v (List.replicate k v) = v) ∧
    (0 < n → Spec.smm n v (List.replicate k v) = v) ∧
    (0 < n → Spec.vidya n v (List.replicate k v) = v) ∧
    (0 < n / 2 → 0 < Nat.sqrt n → Spec.hma n v (List.replicate k v) = v) ∧
    (0 < n → Spec.linreg n v (List.replicate k v) = v) ∧
    (∀ ws : List K, (∀ w ∈ ws, 0 ≤ w) → 0 < ws.sum → Spec.conv ws v (List.replicate k v) = v) :=
  ⟨fun h => (swma_average n h).hull.constant v k, fun h => (trima_average n h).hull.constant v k,
   fun h => Hull.constant (smm_hull n h) v k, fun h => (vidya_hull n h).constant v k,
   fun h2 hs => (hma_affine n h2 hs).constant v k, fun h => (linreg_affine n h).constant v k,
   fun ws hw hs => (conv_hull ws hw hs).constant v k⟩

theorem C08_window_specs_prefix (n j : Nat) (hn : 2 ≤ n) (v : K) (xs : List K) (ws : List K) :
    Spec.swma n v (List.replicate j v ++ xs) = Spec.swma n v xs ∧
    Spec.linreg n v (List.replicate j v ++ xs) = Spec.linreg n v xs ∧
    Spec.smm n v (List.replicate j v ++ xs) = Spec.smm n v xs ∧
    Spec.conv ws v (List.replicate j v ++ xs) = Spec.conv ws v xs := by
  refine ⟨?_, ?_, ?_, ?_⟩
  · unfold Spec.swma; rw [if_neg (by omega), if_neg (by omega)]; unfold Spec.win; rw [win_prefix_invariant]
  · unfold Spec.linreg Spec.win; rw [win_prefix_invariant]
  · unfold Spec.smm Spec.win; rw [win_prefix_invariant]
  · unfold Spec.conv Spec.win; rw [win_prefix_invariant]

/-- a constant pair never crosses: with a constant difference `d` neither rule can hold -/
theorem C08_cross_silent (d : K) : crossAboveRule d d = false ∧ crossUnderRule d d = false := by
  simp only [crossAboveRule, crossUnderRule, Bool.and_eq_false_iff, decide_eq_false_iff_not, not_lt, not_le]
  exact ⟨le_or_gt 0 d, le_or_gt d 0⟩

example : lastN 3 (history 3 (7 : Nat) (List.replicate 2 7 ++ [1, 2])) = [7, 1, 2] := by decide

end Yata.C08

#print axioms Yata.C08.C08_window_prefix
#print axioms Yata.C08.C08_window_constant
#print axioms Yata.C08.C08_specs_prefix
#print axioms Yata.C08.C08_specs_constant
#print axioms Yata.C08.C08_ema_prefix
#print axioms Yata.C08.C08_ema_family_constant
#print axioms Yata.C08.C08_selection_constant
#print axioms Yata.C08.C08_cross_silent
#print axioms Yata.C08.C08_all_kinds_constant
#print axioms Yata.C08.C08_window_specs_prefix
