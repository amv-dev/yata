/-
  C05 — Indicator raw values equal the documented formulas.

  Statements are about the exact-arithmetic models of lean/YataModel/Indicators*.lean, tied to src/indicators/*.rs by the
  `ind` correspondence run (every returned value at every step).

  * The configurable moving average `MA.init` / `MAInst.next` *realises* a history function: `Realises f m h` — after the
    inputs `h` the instance `m` answers `f (h ++ [x])` to every next input `x`, for ever (`C05_realises_run`).
  * Every one of the 15 kinds realises its documented formula (`C05_every_kind_realises`, from the C02/C03/C04 run theorems;
    written out for SMA, EMA — the kinds the indicators use by default —, WMA and RMA: SMA is the arithmetic mean of the
    last `n` values with the construction value as prehistory, EMA the recurrence with α = 2/(n+1)).  So the `Realises`
    hypotheses of the step theorems below can be discharged for every configuration; done for MACD
    (`C05_macd_init_every_kind`, `C05_macd_run`) and RSI (`C05_rsi_run`): from the constructor, for every accepted
    configuration, every candle stream, every step.
  * MACD (every triple of realised averages): value 0 is `f₁(sources) − f₂(sources)`, value 1 is `f₃` of the history of
    value 0 (`C05_macd_step`).
  * Donchian channel, from `init`, over every candle list: the bounds are a greatest / least element of the last `n`
    highs / lows of `n copies of the first candle ++ candles so far`, the middle is their mean (`C05_donchian_run`).
  * RSI: `pos/(pos+neg)` (½ when both vanish; clamped to [0, 1] by the code, which changes nothing for non-negative
    averages: `C05_rsi_unclamped`) of the realised averages of gains and losses (`C05_rsi_step`).
  * Chande momentum: from an invariant state the running sums are the window sums of positive / negative parts and
    the value is `(P−N)/(P+N)` (0 when both vanish) (`C05_cmo_step`).
  * Aroon: `(period − age)/period` of the newest highest high / lowest low, the ages being characterised by
    `HighestIndex.Inv` (C04: newest maximal element) (`C05_aroon_step`).
  * Bollinger: centre = mean, variance under the bands = sample variance of the last `avg_size` sources, from
    invariant SMA / StDev states (`C05_bollinger_step`; the bands are centre ± sigma·sqrt(variance), sqrt not modelled).
  * Parabolic SAR: the returned pair is the state after the flip test (`C05_sar_values`).
  * Stochastic: the k-row is `(close − lo)/(hi − lo)` (½ on an empty range) of a greatest high / least low of the last
    `period` candles, the two lines are the realised averages of it, stacked (`C05_stochastic_step`).
  * Keltner: `[source, f(sources) ± σ·mean(last n true ranges)]` (`C05_keltner_step`).
  * Ichimoku: tenkan / kijun are mid-points of the extremes over `l1` / `l2` candles, the spans are the mid-points formed
    `m` steps earlier, from the constructor's invariant (`C05_ichimoku_init`, `C05_ichimoku_step`).
  * Chaikin money flow: Σ CLV·volume / Σ volume over the last `size` candles (`C05_cmf_step`).
  * Money-flow index: the flows are the sums over the last `period` candles of the volumes of candles whose typical price
    rose / fell against the previous candle; value `pmf/(pmf+nmf)`, ½ without negative flow (`C05_mfi_step`, `C05_mfi_init`);
    the source's `1 − 1/(1 + pmf/nmf)` is that quotient (`C05_mfi_formula`).
  * ADX: averaged true range; directional movements against the candle `period1` steps back averaged and divided by it;
    the index is the average of |+DI − −DI|/(+DI + −DI) (`C05_adx_t_textbook`: the code's guard and clamp do not change
    it for non-negative quotients); nothing but the true-range average moves while it is zero (`C05_adx_step`).
  * TrendStrengthIndex: `p/sqrt q` with `p = (WMA − mean)·Σi`, `q = k·(Σx² − mean·Σx)` over the last `period` sources
    (`C05_trend_strength_step`); FisherTransform: `prev/2 + atanhQ(clamped position of the source in the window's range)`
    and the realised average of that (`C05_fisher_step`; `atanhQ` is the model's rational stand-in for atanh).
  * AwesomeOscillator `f₂(sources) − f₁(sources)`; DetrendedPriceOscillator `source n steps ago − f(sources)`;
    EaseOfMovement the realised average of `mid-point move · range / volume` (0 on zero volume) against the candle `period2`
    back; EldersForceIndex the realised average of `source change · window volume` (`C05_ao_step`, `C05_dpo_step`,
    `C05_eom_step`, `C05_efi_step`).
  * Envelopes `f(sources)·(1 ± k)` and the second source; KlingerVolumeOscillator `f₁ − f₂` of the signed volumes and the
    realised signal line; TrueStrengthIndex / SMIErgodic: the TSI quotient of the doubly smoothed changes (C03) and the
    realised smoothing of it (`C05_envelopes_step`, `C05_klinger_step`, `C05_tsi_step`).
  Partial: no value theorem is written for ChaikinOscillator, CommodityChannelIndex, WoodiesCCI, CoppockCurve,
  HullMovingAverage, Kaufman, MomentumIndex, Trix, KnowSureThing, RelativeVigorIndex, ChandeKrollStop (those models are
  validated by the correspondence run only; PivotReversalStrategy returns no values); the bands of PriceChannelStrategy are
  stated in `Channel.priceChannel_spec` only (YataProofs/Indicators/Extremes.lean, used by C12).  Floats are outside.
-/
import YataProofs.Indicators.SAR
import YataProofs.Indicators.Extremes
import YataProofs.Indicators.Stoch
import YataProofs.Indicators.MoneyFlow
import YataProofs.Indicators.CMO
import YataProofs.Indicators.Bands
import YataProofs.Indicators.RSI
import YataProofs.Indicators.Compositions
import YataProofs.Indicators.ADX
import YataProofs.Indicators.TrendStrength
namespace Yata.C05
open Yata Yata.Ind

theorem C05_realises_run {f : List ℚ → ℚ} {m : M} {h : List ℚ} (hr : Realises f m h) (xs : List ℚ) :
    ∃ outs m', runM MAInst.next m xs = .ok (outs, m') ∧ Realises f m' (h ++ xs) ∧ outs.length = xs.length ∧
      ∀ i (hi : i < outs.length), outs[i] = f (h ++ xs.take (i + 1)) := hr.run xs

theorem C05_sma_realises {P n : Nat} (v : ℚ) (hn0 : 0 < n) (hn : n ≤ P - 1) :
    ∃ m, MA.init P { kind := .sma, length := n } v = .ok m ∧
      Realises (fun h => Spec.mean n (lastN n (history n v h))) m [] := every_kind_realises ⟨.sma, n⟩ v ⟨hn0, hn⟩

theorem C05_ema_realises {P n : Nat} (v : ℚ) (hn0 : 0 < n) (hn : n ≤ P - 1) :
    ∃ m, MA.init P { kind := .ema, length := n } v = .ok m ∧
      Realises (fun h => Spec.emaRec (((2 : Nat) : ℚ) / ((n + 1 : Nat) : ℚ)) v h) m [] :=
  every_kind_realises ⟨.ema, n⟩ v ⟨hn0, hn⟩

theorem C05_wma_realises {P n : Nat} (v : ℚ) (hn0 : 0 < n) (hn : n ≤ P - 1) :
    ∃ m, MA.init P { kind := .wma, length := n } v = .ok m ∧ Realises (fun h => Spec.wma n v h) m [] :=
  every_kind_realises ⟨.wma, n⟩ v ⟨hn0, hn⟩

theorem C05_rma_realises {P n : Nat} (v : ℚ) (hn0 : 0 < n) :
    ∃ m, MA.init P { kind := .rma, length := n } v = .ok m ∧ Realises (fun h => Spec.emaRec (1 / (n : ℚ)) v h) m [] :=
  every_kind_realises ⟨.rma, n⟩ v hn0

theorem C05_every_kind_realises {P : Nat} (k : MAKind) (n : Nat) (v : ℚ) (h : validLen P k n) :
    ∃ m, MA.init P { kind := k, length := n } v = .ok m ∧ Realises (specOf k n v) m [] :=
  every_kind_realises ⟨k, n⟩ v h

theorem C05_macd_step {f1 f2 f3 : List ℚ → ℚ} {srcs macds : List ℚ} {s : MACD} (k : Candle ℚ)
    (hi : MACD.Inv f1 f2 f3 srcs macds s) :
    let x := k.source s.cfg.source
    let macd := f1 (srcs ++ [x]) - f2 (srcs ++ [x])
    ∃ v s', s.vals k none = .ok (v, s') ∧ v.map VExp.value = [macd, f3 (macds ++ [macd])] ∧
      MACD.Inv f1 f2 f3 (srcs ++ [x]) (macds ++ [macd]) s' ∧ s'.cfg = s.cfg := MACD.vals_spec k hi

/-- MACD, any three kinds and lengths that its `validate` and the three constructors accept: from the constructor the
    hypothesis of `C05_macd_step` holds with the documented formulas of the three kinds -/
theorem C05_macd_init_every_kind {P : Nat} (c : MACDCfg) (k : Candle ℚ) (hv : MACD.validate c = true)
    (h1 : validLen P c.ma1.kind c.ma1.length) (h2 : validLen P c.ma2.kind c.ma2.length)
    (h3 : validLen P c.signal.kind c.signal.length) :
    ∃ s, MACD.init P c k = .ok s ∧ s.cfg = c ∧
      MACD.Inv (specOf c.ma1.kind c.ma1.length (k.source c.source)) (specOf c.ma2.kind c.ma2.length (k.source c.source))
        (specOf c.signal.kind c.signal.length 0) [] [] s := by
  obtain ⟨a, ha, ra⟩ := every_kind_realises (P := P) c.ma1 (k.source c.source) h1
  obtain ⟨b, hb, rb⟩ := every_kind_realises (P := P) c.ma2 (k.source c.source) h2
  obtain ⟨d, hd, rd⟩ := every_kind_realises (P := P) c.signal 0 h3
  exact ⟨_, by simp only [MACD.init, if_pos hv, ha, hb, hd]; rfl, rfl, ra, rb, rd⟩

/-- MACD over whole streams, every accepted configuration (any of the 15 kinds in each of the three slots): value 0 is the
    difference of the two documented averages of the sources so far, value 1 the documented signal average of the history
    of value 0 -/
theorem C05_macd_run {P : Nat} (c : MACDCfg) (k0 : Candle ℚ) (hv : MACD.validate c = true)
    (h1 : validLen P c.ma1.kind c.ma1.length) (h2 : validLen P c.ma2.kind c.ma2.length)
    (h3 : validLen P c.signal.kind c.signal.length) (cs : List (Candle ℚ)) :
    ∃ s0 outs s', MACD.init P c k0 = .ok s0 ∧ runM (fun s k => s.vals k none) s0 cs = .ok (outs, s') ∧ outs.length = cs.length ∧
      ∀ i (hi : i < outs.length),
        (outs[i]).map VExp.value =
          [MACD.line c k0 (cs.take (i + 1)),
           specOf c.signal.kind c.signal.length 0 ((List.range (i + 1)).map fun j => MACD.line c k0 (cs.take (j + 1)))] := by
  obtain ⟨s0, h0, rfl, hinv⟩ := C05_macd_init_every_kind (P := P) c k0 hv h1 h2 h3
  obtain ⟨os, s', hr⟩ := MACD.run_spec hinv cs
  exact ⟨s0, os, s', h0, hr⟩

/-! non-vacuity: a reachable MACD state satisfies the invariant (both default averages are EMAs) -/
example : ∃ m, MA.init 255 { kind := .ema, length := 12 } (100 : ℚ) = .ok m ∧
    Realises (fun h => Spec.emaRec (((2 : Nat) : ℚ) / ((12 + 1 : Nat) : ℚ)) 100 h) m [] :=
  every_kind_realises ⟨.ema, 12⟩ 100 ⟨by norm_num, by norm_num⟩

theorem C05_donchian_run {P n : Nat} (k0 : Candle ℚ) (hn1 : 1 < n) (hn : n ≤ P - 1) (cs : List (Candle ℚ)) :
    ∃ s0 outs s', Channel.init P n 1 true k0 = .ok s0 ∧
      runM (fun s k => Channel.donchianVals s k) s0 cs = .ok (outs, s') ∧ outs.length = cs.length ∧
      ∀ i (hi : i < outs.length), ∃ lo hiV,
        outs[i].map VExp.value = [lo, (hiV + lo) * half, hiV] ∧
        IsMaxOf hiV (lastN n (List.replicate n k0.high ++ (cs.take (i + 1)).map (·.high))) ∧
        IsMinOf lo (lastN n (List.replicate n k0.low ++ (cs.take (i + 1)).map (·.low))) := by
  obtain ⟨s0, h0, hp, _, hinv⟩ := Channel.init_ok (P := P) 1 k0 hn1 hn
  refine method_run _ (fun s k => Channel.donchianVals s k)
    (fun h s => s.period = n ∧
      Channel.Inv P (List.replicate n k0.high ++ h.map (·.high)) (List.replicate n k0.low ++ h.map (·.low)) s)
    (fun h o => ∃ lo hiV, o.map VExp.value = [lo, (hiV + lo) * half, hiV] ∧
      IsMaxOf hiV (lastN n (List.replicate n k0.high ++ h.map (·.high))) ∧
      IsMinOf lo (lastN n (List.replicate n k0.low ++ h.map (·.low))))
    ⟨s0, h0, hp, by simpa using hinv⟩ ?_ cs
  rintro h s k ⟨hper, hi⟩
  obtain ⟨hiV, lo, s1, hn1, st⟩ := Channel.donchian_spec k hi
  refine ⟨_, s1, hn1, ⟨by rw [st.period, hper], ?_⟩, lo, hiV, rfl, ?_, ?_⟩
  · simpa [List.map_append, List.append_assoc] using st.inv
  · simpa [List.map_append, List.append_assoc, hper] using st.max
  · simpa [List.map_append, List.append_assoc, hper] using st.min

theorem C05_rsi_step {fp fn : List ℚ → ℚ} {gains losses : List ℚ} {s : RSI} (k : Candle ℚ)
    (hp : Realises fp s.posma gains) (hn : Realises fn s.negma losses) :
    let src := k.source s.cfg.source
    let g := smax (src - s.previous_input) 0
    let l := smin (src - s.previous_input) 0
    let pos := fp (gains ++ [g])
    let neg := -(fn (losses ++ [l]))
    ∃ v s', s.vals k = .ok ([v], s') ∧
      v.value = (if pos + neg = 0 then half else qclamp (pos / (pos + neg)) 0 1) ∧ 0 ≤ v.value ∧ v.value ≤ 1 ∧
      Realises fp s'.posma (gains ++ [g]) ∧ Realises fn s'.negma (losses ++ [l]) ∧
      s'.previous_input = src ∧ s'.cfg = s.cfg := by
  intro src g l pos neg
  obtain ⟨s', hv, rp, rn, hprev, hc⟩ := RSI.vals_spec k hp hn
  have hr := cquot_half_range pos (pos + neg) (maK s.posma) (2 * maK s.posma) .price []
  exact ⟨_, s', hv, cquot_value_nil _ _ _ _ _ _ _ _, hr.1, hr.2, rp, rn, hprev, hc⟩

/-- the clamp of the code (`fix:` 91f0f9b) does nothing for non-negative averages: the value is the documented pos / (pos + neg) -/
theorem C05_rsi_unclamped (pos neg : ℚ) (h1 : 0 ≤ pos) (h2 : 0 ≤ neg) (hz : pos + neg ≠ 0) :
    qclamp (pos / (pos + neg)) 0 1 = pos / (pos + neg) := RSI.value_unclamped pos neg h1 h2 hz

/-- RSI over whole streams, every kind of moving average, from the constructor: at every step the value is the documented
    pos / (pos + neg) — clamped to [0, 1] by the code, 1/2 when both averages vanish — of the documented averages
    (`specOf kind length 0`) of the gains and of the losses of the sources consumed so far -/
theorem C05_rsi_run {P : Nat} (c : RSICfg) (k0 : Candle ℚ) (hv : RSI.validate c = true)
    (h1 : validLen P c.ma.kind c.ma.length) (cs : List (Candle ℚ)) :
    ∃ s0 outs s', RSI.init P c k0 = .ok s0 ∧ runM RSI.vals s0 cs = .ok (outs, s') ∧ outs.length = cs.length ∧
      ∀ i (hi : i < outs.length), ∃ v, outs[i] = [v] ∧
        v.value = RSI.valueOf c (k0.source c.source) ((cs.take (i + 1)).map fun k => k.source c.source) := by
  obtain ⟨s0, outs, s', h0, hr, hl, ho⟩ := RSI.run_value_range c k0 hv h1 cs
  exact ⟨s0, outs, s', h0, hr, hl, fun i hi => let ⟨v, e, r, _⟩ := ho i hi; ⟨v, e, r⟩⟩

theorem C05_cmo_step {P : Nat} {s : CMO} (k : Candle ℚ) (h : CMO.Inv P s) :
    ∃ v s', s.vals k = .ok ([v], s') ∧ CMO.Inv P s' ∧ 0 ≤ s'.pos_sum ∧ 0 ≤ s'.neg_sum ∧
      v.value = (if s'.pos_sum + s'.neg_sum = 0 then 0 else (s'.pos_sum - s'.neg_sum) / (s'.pos_sum + s'.neg_sum)) ∧
      -1 ≤ v.value ∧ v.value ≤ 1 := CMO.vals_spec k h

theorem C05_aroon_step {P : Nat} {s : Aroon} (k : Candle ℚ)
    (hh : HighestIndex.Inv P s.highest_index) (hl : LowestIndex.Inv P s.lowest_index) :
    ∃ v hi li s', Aroon.vals P s k = .ok (v, (hi, li), s') ∧
      v.map VExp.value = [((s.cfg.period - hi : Nat) : ℚ) / (s.cfg.period : ℚ), ((s.cfg.period - li : Nat) : ℚ) / (s.cfg.period : ℚ)] ∧
      HighestIndex.Inv P s'.highest_index ∧ LowestIndex.Inv P s'.lowest_index ∧
      hi = s'.highest_index.index ∧ li = s'.lowest_index.index ∧
      Window.toList s'.highest_index.window = (Window.toList s.highest_index.window).tail ++ [k.high] ∧
      Window.toList s'.lowest_index.window = (Window.toList s.lowest_index.window).tail ++ [k.low] ∧ s'.cfg = s.cfg :=
  Aroon.vals_spec k hh hl

theorem C05_bollinger_step {P : Nat} {hist : List ℚ} {s : BB} (k : Candle ℚ) (hn : 2 ≤ s.cfg.avg_size)
    (hm : SMA.Inv P s.cfg.avg_size hist s.ma) (hd : StDev.Inv P s.cfg.avg_size hist s.st_dev) :
    let n := s.cfg.avg_size
    let w := lastN n (hist ++ [k.source s.cfg.source])
    ∃ s', s.step k = .ok (Spec.mean n w, (w.map fun x => (x - Spec.mean n w) * (x - Spec.mean n w)).sum / ((n - 1 : Nat) : ℚ), s') ∧
      SMA.Inv P n (hist ++ [k.source s.cfg.source]) s'.ma ∧ StDev.Inv P n (hist ++ [k.source s.cfg.source]) s'.st_dev ∧
      s'.cfg = s.cfg := BB.step_spec k hn hm hd

theorem C05_sar_values (s : SAR) (k : Candle ℚ) :
    ((s.next k).1.1.map VExp.value) = [(SAR.afterFlip s k).sar, ((SAR.afterFlip s k).trend : ℚ)] := SAR.next_values s k

theorem C05_stochastic_step {P : Nat} {g1 g2 : List ℚ → ℚ} {highs lows krs f1s : List ℚ} {s : Stoch} (k : Candle ℚ)
    (h : Stoch.Inv P g1 g2 highs lows krs f1s s) :
    ∃ hi lo v s', s.vals k none = .ok (v, s') ∧
      IsMaxOf hi (lastN s.cfg.period (highs ++ [k.high])) ∧ IsMinOf lo (lastN s.cfg.period (lows ++ [k.low])) ∧
      (let kr := Stoch.kRows k.close hi lo
       let f1 := g1 (krs ++ [kr])
       v.map VExp.value = [f1, g2 (f1s ++ [f1])] ∧
       Stoch.Inv P g1 g2 (highs ++ [k.high]) (lows ++ [k.low]) (krs ++ [kr]) (f1s ++ [f1]) s') ∧ s'.cfg = s.cfg :=
  Stoch.vals_spec k h

theorem C05_keltner_step {P : Nat} {f : List ℚ → ℚ} {srcs hist : List ℚ} {s : Keltner} (k : Candle ℚ)
    (h : Keltner.Inv P hist s) (hr : Realises f s.ma srcs) (hv : k.low ≤ k.high) :
    let x := k.source s.cfg.source
    let trs := hist ++ [k.trClose s.prev_close]
    let atr := Spec.mean s.cfg.ma.length (lastN s.cfg.ma.length trs)
    ∃ v s', s.vals k = .ok (v, s') ∧
      v.map VExp.value = [x, atr * s.cfg.sigma + f (srcs ++ [x]), atr * (-s.cfg.sigma) + f (srcs ++ [x])] ∧
      Keltner.Inv P trs s' ∧ Realises f s'.ma (srcs ++ [x]) ∧ s'.prev_close = k.close ∧ s'.cfg = s.cfg := by
  intro x trs atr
  obtain ⟨m, hm, rm⟩ := hr.step x
  obtain ⟨κ, s', hvals, hinv, rfl, hpc, hc⟩ := Keltner.vals_of_next k h hv hm
  exact ⟨_, s', hvals, rfl, hinv, rm, hpc, hc⟩

theorem C05_ichimoku_init {P : Nat} (c : IchiCfg) (k : Candle ℚ) (h1 : 0 < c.l1) (h12 : c.l1 < c.l2) (h23 : c.l2 < c.l3)
    (h3 : c.l3 ≤ P - 1) (hm0 : 0 < c.m) (hm : c.m < P) :
    ∃ s, Ichi.init P c k = .ok s ∧ s.cfg = c ∧
      Ichi.Inv P (List.replicate c.l3 k.high) (List.replicate c.l3 k.low) (List.replicate c.m k.hl2)
        (List.replicate c.m k.hl2) s := Ichi.init_ok c k h1 h12 h23 h3 hm0 hm

theorem C05_ichimoku_step {P : Nat} {highs lows as bs : List ℚ} {s : Ichi} (k : Candle ℚ) (h : Ichi.Inv P highs lows as bs s) :
    ∃ a e b f d g spanA spanB s',
      s.vals k = .ok ([.price ((a + e) * half) 1, .price ((b + f) * half) 1, .price spanA 1, .price spanB 1], s') ∧
      IsMaxOf a (lastN s.cfg.l1 (highs ++ [k.high])) ∧ IsMinOf e (lastN s.cfg.l1 (lows ++ [k.low])) ∧
      IsMaxOf b (lastN s.cfg.l2 (highs ++ [k.high])) ∧ IsMinOf f (lastN s.cfg.l2 (lows ++ [k.low])) ∧
      IsMaxOf d (lastN s.cfg.l3 (highs ++ [k.high])) ∧ IsMinOf g (lastN s.cfg.l3 (lows ++ [k.low])) ∧
      (lastN s.cfg.m as).head? = some spanA ∧ (lastN s.cfg.m bs).head? = some spanB ∧
      Ichi.Inv P (highs ++ [k.high]) (lows ++ [k.low]) (as ++ [((a + e) * half + (b + f) * half) * half])
        (bs ++ [(d + g) * half]) s' ∧ s'.cfg = s.cfg := by
  obtain ⟨a, e, b, f, d, g, spanA, spanB, s', hv, st⟩ := Ichi.vals_spec k h
  exact ⟨a, e, b, f, d, g, spanA, spanB, s', hv, st.max1, st.min1, st.max2, st.min2, st.max3, st.min3, st.delayedA, st.delayedB,
    st.inv, st.cfg⟩

theorem C05_cmf_step {P : Nat} {hist : List (Candle ℚ)} {s : CMF} (k : Candle ℚ) (h : CMF.Inv P hist s) (hk : goodCandle k) :
    ∃ num den s', s.vals k = .ok ([.quot num den (s.size : ℚ) (s.size : ℚ) .vol [] none], s') ∧
      CMF.Inv P (hist ++ [k]) s' ∧ s'.size = s.size ∧
      num = ((lastN s.size (hist ++ [k])).map fun c => c.clv * c.volume).sum ∧
      den = ((lastN s.size (hist ++ [k])).map fun c => c.volume).sum := by
  obtain ⟨s', hv, hi', hsz⟩ := CMF.vals_spec k h hk
  exact ⟨_, _, s', hv, hi', hsz, rfl, rfl⟩

theorem C05_mfi_init {P period : Nat} (zone : ℚ) (k : Candle ℚ) (s : MFI) (h : MFI.init P period zone k = .ok s) :
    MFI.Inv P k (List.replicate period k) s ∧ s.period = period ∧ s.zone = zone := MFI.init_inv zone k s h

/-- `MFI.Inv` says `pmf` / `nmf` are the sums of `MFI.flows` over the last `period` candles -/
theorem C05_mfi_step {P : Nat} {c0 : Candle ℚ} {H : List (Candle ℚ)} {s : MFI} (k : Candle ℚ) (h : MFI.Inv P c0 H s)
    (hk : 0 ≤ k.volume) :
    ∃ v s', s.vals k = .ok ([.exact (1 - s.zone), v, .exact s.zone], s') ∧ MFI.Inv P c0 (H ++ [k]) s' ∧
      v.value = (if s'.nmf = 0 then half else s'.pmf / (s'.pmf + s'.nmf)) := by
  obtain ⟨v, s', h1, h2, _, _, _, h3, _⟩ := MFI.vals_spec k h hk
  exact ⟨v, s', h1, h2, h3⟩

theorem C05_mfi_formula (p n : ℚ) (hp : 0 ≤ p) (hn : 0 < n) : 1 - 1 / (1 + p / n) = p / (p + n) := by
  rw [one_add_div hn.ne', one_div_div, one_sub_div (by positivity), add_sub_cancel_left, add_comm]

theorem C05_adx_step {P n : Nat} {gT gP gM gA : List ℚ → ℚ} {cs : List (Candle ℚ)} {trs pdms mdms ts : List ℚ} {s : ADX}
    (k : Candle ℚ) (h : ADX.Inv P n gT gP gM gA cs trs pdms mdms ts s) :
    ∃ prev, (lastN n cs).head? = some prev ∧
    let trs' := trs ++ [k.trClose s.prev_close]
    let tr := gT trs'
    (tr = 0 →
      ∃ v s', s.vals k none = .ok (v, s', true) ∧ v.map VExp.value = [gA (ts ++ [0]), 0, 0] ∧
        s'.prev_close = s.prev_close ∧ ADX.Inv P n gT gP gM gA (cs ++ [k]) trs' pdms mdms (ts ++ [0]) s') ∧
    (tr ≠ 0 →
      let pv := gP (pdms ++ [ADX.pdm k prev])
      let mv := gM (mdms ++ [ADX.mdm k prev])
      let plus := pv / tr
      let minus := mv / tr
      let t := ADX.tOf plus minus
      ∃ v s', s.vals k none = .ok (v, s', false) ∧ v.map VExp.value = [gA (ts ++ [t]), plus, minus] ∧
        s'.prev_close = k.close ∧
        ADX.Inv P n gT gP gM gA (cs ++ [k]) trs' (pdms ++ [ADX.pdm k prev]) (mdms ++ [ADX.mdm k prev]) (ts ++ [t]) s') :=
  ADX.vals_spec k h

/-- the input of ADX's final average is the textbook |+DI − −DI| / (+DI + −DI) (0 when both vanish) whenever the two
    quotients are non-negative, as the exact ones are; the guard `s <= 0` and the clamp to 1 of the code only act on
    rounding residue -/
theorem C05_adx_t_textbook {plus minus : ℚ} (hp : 0 ≤ plus) (hm : 0 ≤ minus) :
    ADX.tOf plus minus = if plus + minus = 0 then 0 else |plus - minus| / (plus + minus) := ADX.tOf_nonneg hp hm

theorem C05_trend_strength_step {P : Nat} {srcs : List ℚ} {s : TSInd} (src : ℚ) (h : TSInd.Inv P srcs s) :
    let w := lastN s.period (srcs ++ [src])
    let sy := w.sum
    let sy2 := (w.map fun x => x * x).sum
    let sma := sy / (s.period : ℚ)
    let wma := Spec.rampSum 1 w / ((s.period * (s.period + 1) / 2 : Nat) : ℚ)
    ∃ s', s.vals src = .ok ([.sqrtQuot ((wma - sma) * s.sx) (s.k * (sy2 - sma * sy)) (2 * s.sx) (2 * s.k * (s.period : ℚ))], s') ∧
      TSInd.Inv P (srcs ++ [src]) s' ∧ s'.sx = s.sx ∧ s'.k = s.k ∧ s'.period = s.period := TSInd.vals_spec src h

theorem C05_fisher_step {P : Nat} {g : List ℚ → ℚ} {srcs cums : List ℚ} {s : Fisher} (src : ℚ) (h : Fisher.Inv P g srcs cums s) :
    ∃ hi lo v s', s.vals src none = .ok (v, s') ∧
      IsMaxOf hi (lastN s.period1 (srcs ++ [src])) ∧ IsMinOf lo (lastN s.period1 (srcs ++ [src])) ∧
      (let ft := if hi = lo then 0 else atanhQ (Fisher.xOf s.bound src hi lo)
       let cum := cums.getLastD 0 * half + ft
       v.map VExp.value = [cum, g (cums ++ [cum])] ∧ Fisher.Inv P g (srcs ++ [src]) (cums ++ [cum]) s') := by
  obtain ⟨o1, o2, h1, l1, hn1, hn2, i, hmax, hmin⟩ := h.hl.step src src
  set ft : ℚ := if o1 = o2 then 0 else atanhQ (Fisher.xOf s.bound src o1 o2) with hft
  obtain ⟨m, hm, rm⟩ := h.r.step (cums.getLastD 0 * half + ft)
  refine ⟨o1, o2, _, _, by simp only [Fisher.vals, maNext, bind, Except.bind, fb, hn1, hn2, h.prev, beq_iff_eq, ← hft, hm]; rfl,
    hmax, hmin, ?_⟩
  exact ⟨rfl, .of_hl i rm (List.getLastD_concat ..).symm⟩

/-- the argument of the transform never leaves [−bound, bound] -/
theorem C05_fisher_clamped (b src hi lo : ℚ) (hb : 0 ≤ b) : -b ≤ Fisher.xOf b src hi lo ∧ Fisher.xOf b src hi lo ≤ b :=
  clampQ_range b _ hb

theorem C05_ao_step {f1 f2 : List ℚ → ℚ} {srcs : List ℚ} {s : AO} (k : Candle ℚ) (h : AO.Inv f1 f2 srcs s) :
    let x := k.source s.cfg.source
    ∃ v s', s.vals k = .ok (v, s') ∧ v.map VExp.value = [f2 (srcs ++ [x]) - f1 (srcs ++ [x])] ∧
      AO.Inv f1 f2 (srcs ++ [x]) s' ∧ s'.cfg = s.cfg := by
  intro x
  obtain ⟨a, ha, ra⟩ := h.r1.step x
  obtain ⟨b, hb, rb⟩ := h.r2.step x
  refine ⟨_, _, by simp only [AO.vals, maNext, bind, Except.bind, x, ha, hb]; rfl, ?_⟩
  exact ⟨rfl, ⟨ra, rb⟩, rfl⟩

theorem C05_dpo_step {P n : Nat} {f : List ℚ → ℚ} {srcs : List ℚ} {s : DPO} (k : Candle ℚ) (h : DPO.Inv P n f srcs s) :
    let x := k.source s.source
    ∃ left v s', (lastN n srcs).head? = some left ∧ s.vals k = .ok (v, s') ∧
      v.map VExp.value = [left - f (srcs ++ [x])] ∧ DPO.Inv P n f (srcs ++ [x]) s' := by
  intro x
  obtain ⟨m, hm, rm⟩ := h.r.step x
  obtain ⟨left, w', hw, tw, rest, hl, -⟩ := h.win.slide h.pos x
  refine ⟨left, _, _, congrArg List.head? hl, by simp only [DPO.vals, maNext, bind, Except.bind, x, hm, hw]; rfl, ?_⟩
  exact ⟨rfl, h.pos, rm, tw⟩

theorem C05_eom_step {P n : Nat} {f : List ℚ → ℚ} {cs : List (Candle ℚ)} {raws : List ℚ} {s : EoM} (k : Candle ℚ)
    (h : EoM.Inv P n f cs raws s) :
    ∃ prev v s', (lastN n cs).head? = some prev ∧ s.vals k = .ok (v, s') ∧
      v.map VExp.value = [f (raws ++ [EoM.raw k prev])] ∧ EoM.Inv P n f (cs ++ [k]) (raws ++ [EoM.raw k prev]) s' := by
  obtain ⟨prev, w', hw, tw, rest, hl, -⟩ := h.win.slide h.pos k
  obtain ⟨m, hm, rm⟩ := h.r.step (EoM.raw k prev)
  simp only [EoM.raw] at hm
  -- the model tests the volume with `==`
  refine ⟨prev, _, _, congrArg List.head? hl, by simp only [EoM.vals, hw, bind, Except.bind, maNext, beq_iff_eq, hm]; rfl, ?_⟩
  exact ⟨rfl, h.pos, rm, tw⟩

theorem C05_efi_step {P n : Nat} {f : List ℚ → ℚ} {cs : List (Candle ℚ)} {raws : List ℚ} {s : EFI} (k : Candle ℚ)
    (h : EFI.Inv P n f cs raws s) :
    let vs := ((lastN n (cs ++ [k])).map fun c => c.volume).sum
    ∃ left v s', (lastN n cs).head? = some left ∧ s.vals k = .ok (v, s') ∧
      (let r := (k.source s.source - left.source s.source) * vs
       v.map VExp.value = [f (raws ++ [r])] ∧ EFI.Inv P n f (cs ++ [k]) (raws ++ [r]) s') := by
  intro vs
  obtain ⟨left, w', hw, tw, rest, hl, hl'⟩ := h.win.slide h.pos k
  have hvs : s.vol_sum + (k.volume - left.volume) = vs := by
    rw [h.vol, hl, ← sum_map_slide (fun c : Candle ℚ => c.volume), ← hl']
  obtain ⟨m, hm, rm⟩ := h.r.step ((k.source s.source - left.source s.source) * vs)
  refine ⟨left, _, _, congrArg List.head? hl, by simp only [EFI.vals, hw, bind, Except.bind, maNext, hvs, hm]; rfl, ?_⟩
  exact ⟨rfl, h.pos, rm, tw, rfl⟩

theorem C05_envelopes_step {f : List ℚ → ℚ} {srcs : List ℚ} {s : Env} (k : Candle ℚ) (h : Realises f s.ma srcs) :
    let x := k.source s.cfg.source
    ∃ v s', s.vals k = .ok (v, s') ∧
      v.map VExp.value = [f (srcs ++ [x]) * s.k_high, f (srcs ++ [x]) * s.k_low, k.source s.cfg.source2] ∧
      Realises f s'.ma (srcs ++ [x]) ∧ s'.cfg = s.cfg ∧ s'.k_high = s.k_high ∧ s'.k_low = s.k_low := Env.vals_spec k h

theorem C05_klinger_step {f1 f2 f3 : List ℚ → ℚ} {vols kos : List ℚ} {s : Klinger} (k : Candle ℚ) (tp : ℚ)
    (h : Klinger.Inv f1 f2 f3 vols kos s) :
    let vol := (signi (tp - s.last_tp) : ℚ) * k.volume
    let ko := f1 (vols ++ [vol]) - f2 (vols ++ [vol])
    ∃ v s', s.vals k tp none = .ok (v, s') ∧ v.map VExp.value = [ko, f3 (kos ++ [ko])] ∧
      Klinger.Inv f1 f2 f3 (vols ++ [vol]) (kos ++ [ko]) s' ∧ s'.last_tp = tp := by
  intro vol ko
  obtain ⟨a, ha, ra⟩ := h.r1.step vol
  obtain ⟨b, hb, rb⟩ := h.r2.step vol
  obtain ⟨c, hc, rc⟩ := h.r3.step ko
  refine ⟨_, _, by simp only [Klinger.vals, maNext, bind, Except.bind, fb, vol, ko, ha, hb, hc]; rfl, ?_⟩
  exact ⟨rfl, ⟨ra, rb, rc⟩, rfl⟩

theorem C05_tsi_step {aL aS v0 : ℚ} {g : List ℚ → ℚ} {srcs ts : List ℚ} {s : TSIx} (k : Candle ℚ) (smi : Bool)
    (h : TSIx.Inv aL aS v0 g srcs ts s) :
    let x := k.source s.cfg.source
    let ch := Spec.changes v0 (srcs ++ [x])
    let num := Spec.emaRec aS 0 (Spec.series (Spec.emaRec aL 0) ch)
    let den := Spec.emaRec aS 0 (Spec.series (Spec.emaRec aL 0) (ch.map sabs))
    let t := if 0 < den then num / den else 0
    ∃ s', s.vals k none smi = .ok
        ((if smi then [.quot num den 2 2 .price [] (some 0), .unit (g (ts ++ [t])) (2 * maK s.smooth),
                       .unit (t - g (ts ++ [t])) (4 * maK s.smooth)]
          else [.quot num den 2 2 .price [] (some 0), .unit (g (ts ++ [t])) (2 * maK s.smooth)]), s') ∧
      TSIx.Inv aL aS v0 g (srcs ++ [x]) (ts ++ [t]) s' ∧ s'.cfg = s.cfg := TSIx.vals_spec k smi h

end Yata.C05

#print axioms Yata.C05.C05_realises_run
#print axioms Yata.C05.C05_sma_realises
#print axioms Yata.C05.C05_ema_realises
#print axioms Yata.C05.C05_wma_realises
#print axioms Yata.C05.C05_rma_realises
#print axioms Yata.C05.C05_every_kind_realises
#print axioms Yata.C05.C05_macd_step
#print axioms Yata.C05.C05_macd_init_every_kind
#print axioms Yata.C05.C05_macd_run
#print axioms Yata.C05.C05_donchian_run
#print axioms Yata.C05.C05_rsi_step
#print axioms Yata.C05.C05_rsi_unclamped
#print axioms Yata.C05.C05_rsi_run
#print axioms Yata.C05.C05_cmo_step
#print axioms Yata.C05.C05_aroon_step
#print axioms Yata.C05.C05_bollinger_step
#print axioms Yata.C05.C05_sar_values
#print axioms Yata.C05.C05_stochastic_step
#print axioms Yata.C05.C05_keltner_step
#print axioms Yata.C05.C05_ichimoku_init
#print axioms Yata.C05.C05_ichimoku_step
#print axioms Yata.C05.C05_cmf_step
#print axioms Yata.C05.C05_mfi_init
#print axioms Yata.C05.C05_mfi_step
#print axioms Yata.C05.C05_mfi_formula
#print axioms Yata.C05.C05_adx_step
#print axioms Yata.C05.C05_adx_t_textbook
#print axioms Yata.C05.C05_trend_strength_step
#print axioms Yata.C05.C05_fisher_step
#print axioms Yata.C05.C05_fisher_clamped
#print axioms Yata.C05.C05_ao_step
#print axioms Yata.C05.C05_dpo_step
#print axioms Yata.C05.C05_eom_step
#print axioms Yata.C05.C05_efi_step
#print axioms Yata.C05.C05_envelopes_step
#print axioms Yata.C05.C05_klinger_step
#print axioms Yata.C05.C05_tsi_step
