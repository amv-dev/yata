/-
  C04 — Extremum, arg-extremum and median methods are exact selections.

  Proved here (every element type `β` of bit patterns with a numeric value in a linear order,
  bit-equality finer than numeric equality — i.e. with ties, repeated values and signed zeros —
  every length, every construction value, every stream, every position incl. warm-up):
    * Highest returns (the bit pattern of) an element of the last `n` values that is numerically
      ≥ all of them; Lowest mirrored.  In particular the bit-equality rescan trigger is sound.
    * HighestIndex returns the age `i` of the NEWEST maximal element of the last `n` values: the element at
      age `i` is numerically ≥ all of them and everything newer is strictly smaller (`NewestMaxAt`, which
      determines `i` uniquely — `C04_newest_max_unique`); LowestIndex mirrored. Ties: the newest wins, both on
      the fast path (`>=`) and in the full rescan (strict `>` over the window newest-first).
    * SMM (for the total order of the bit patterns, `tcmp = compare`, i.e. `total_cmp` with −0 < +0): the binary
      searches find the evicted element and a valid insertion point, the in-place shift (`copy_within` + store) is
      "erase there, insert here", so after every stream the slice is THE ascending sort of the last `n` values and
      `mid` returns its middle element(s) (`C04_smm`); no step can panic (`C04_smm_step`).
    * HighestLowestDelta keeps a maximal and a minimal element of the window on every stream (`C04_hldelta`).
  Every C04 method has its theorem (MedianAbsDev's median: C02); independently the run compares all of them exactly with the
  model and with the from-scratch selections of `YataModel/Spec.lean` (small alphabets with ±0).
-/
import YataProofs.SelectionIndex
import YataProofs.SMM
namespace Yata.C04
open Yata FloatLike
variable {β K : Type} [LinearOrder K] [FloatLike β K] [DecidableLT β] [DecidableLE β] {P : Nat}

theorem C04_highest {n : Nat} (v : β) (hn0 : 0 < n) (hn : n ≤ P - 1) (xs : List β) :
    ∃ s0 outs s', Highest.new P n v = .ok s0 ∧ runM Highest.next s0 xs = .ok (outs, s') ∧
      outs.length = xs.length ∧
      ∀ i (hi : i < outs.length), IsMaxOf outs[i] (lastN n (history n v (xs.take (i + 1)))) := by
  obtain ⟨s0, hnew, hinv0, htl0⟩ := Highest.new_spec (P := P) v hn0 hn
  obtain ⟨outs, s', hr, hlen, h⟩ := runM_window Highest.next (·.window) (Highest.Inv P) (fun s o => o = s.value) v hn0
    (fun s x hs => Highest.next_spec x hs) hinv0 htl0 xs
  refine ⟨s0, outs, s', hnew, hr, hlen, fun i hi => ?_⟩
  obtain ⟨s, hs, hw, ho⟩ := h i hi
  rw [ho, ← hw]; exact hs.isMax

theorem C04_lowest {n : Nat} (v : β) (hn0 : 0 < n) (hn : n ≤ P - 1) (xs : List β) :
    ∃ s0 outs s', Lowest.new P n v = .ok s0 ∧ runM Lowest.next s0 xs = .ok (outs, s') ∧
      outs.length = xs.length ∧
      ∀ i (hi : i < outs.length), IsMinOf outs[i] (lastN n (history n v (xs.take (i + 1)))) := by
  obtain ⟨s0, hnew, hinv0, htl0⟩ := Lowest.new_spec (P := P) v hn0 hn
  obtain ⟨outs, s', hr, hlen, h⟩ := runM_window Lowest.next (·.window) (Lowest.Inv P) (fun s o => o = s.value) v hn0
    (fun s x hs => Lowest.next_spec x hs) hinv0 htl0 xs
  refine ⟨s0, outs, s', hnew, hr, hlen, fun i hi => ?_⟩
  obtain ⟨s, hs, hw, ho⟩ := h i hi
  rw [ho, ← hw]; exact hs.isMin

theorem C04_highest_index {n : Nat} (v : β) (hn0 : 0 < n) (hn : n ≤ P - 1) (xs : List β) :
    ∃ s0 outs s', HighestIndex.new P n v = .ok s0 ∧ runM (HighestIndex.next P) s0 xs = .ok (outs, s') ∧
      outs.length = xs.length ∧
      ∀ i (hi : i < outs.length), ∃ m, NewestMaxAt outs[i] m (lastN n (history n v (xs.take (i + 1)))).reverse := by
  obtain ⟨s0, hnew, hinv0, htl0⟩ := HighestIndex.new_spec (P := P) v hn0 hn
  obtain ⟨outs, s', hr, hlen, h⟩ := runM_window (HighestIndex.next P) (·.window) (HighestIndex.Inv P)
    (fun s o => o = s.index) v hn0 (fun s x hs => HighestIndex.next_spec x hs) hinv0 htl0 xs
  refine ⟨s0, outs, s', hnew, hr, hlen, fun i hi => ?_⟩
  obtain ⟨s, hs, hw, ho⟩ := h i hi
  exact ⟨s.value, by rw [ho, ← hw]; exact hs.at_⟩

theorem C04_lowest_index {n : Nat} (v : β) (hn0 : 0 < n) (hn : n ≤ P - 1) (xs : List β) :
    ∃ s0 outs s', LowestIndex.new P n v = .ok s0 ∧ runM (LowestIndex.next P) s0 xs = .ok (outs, s') ∧
      outs.length = xs.length ∧
      ∀ i (hi : i < outs.length), ∃ m, NewestMinAt outs[i] m (lastN n (history n v (xs.take (i + 1)))).reverse := by
  obtain ⟨s0, hnew, hinv0, htl0⟩ := LowestIndex.new_spec (P := P) v hn0 hn
  obtain ⟨outs, s', hr, hlen, h⟩ := runM_window (LowestIndex.next P) (·.window) (LowestIndex.Inv P)
    (fun s o => o = s.index) v hn0 (fun s x hs => LowestIndex.next_spec x hs) hinv0 htl0 xs
  refine ⟨s0, outs, s', hnew, hr, hlen, fun i hi => ?_⟩
  obtain ⟨s, hs, hw, ho⟩ := h i hi
  exact ⟨s.value, by rw [ho, ← hw]; exact hs.at_⟩

/-- `NewestMaxAt` (`NewestMinAt` below) determines the age, so `C04_highest_index` says what the output is -/
theorem C04_newest_max_unique {i i' : Nat} {m m' : β} {r : List β} (h : NewestMaxAt i m r) (h' : NewestMaxAt i' m' r) :
    i = i' := h.unique h'

theorem C04_newest_min_unique {i i' : Nat} {m m' : β} {r : List β} (h : NewestMinAt i m r) (h' : NewestMinAt i' m' r) :
    i = i' := h.unique h'

/-- about the state: the output `highest − lowest` is formed from it by the caller of `step` -/
theorem C04_hldelta {n : Nat} (v : β) (hn0 : 0 < n) (hn : n ≤ P - 1) (xs : List β) :
    ∃ s0 s', HighestLowestDelta.new P n v = .ok s0 ∧ xs.foldlM (fun s x => HighestLowestDelta.step s x) s0 = .ok s' ∧
      IsMaxOf s'.highest (lastN n (history n v xs)) ∧ IsMinOf s'.lowest (lastN n (history n v xs)) := by
  obtain ⟨s0, hnew, hinv0, htl0⟩ := HighestLowestDelta.new_spec (P := P) v hn0 hn
  obtain ⟨s', hf, hi', ht'⟩ := foldlM_invariant HighestLowestDelta.step
    (fun h s => HighestLowestDelta.Inv P s ∧ Window.toList s.window = lastN n (history n v h))
    (fun h s x ⟨hi, ht⟩ =>
      let ⟨s1, hst, hi1, ht1⟩ := HighestLowestDelta.step_spec x hi
      ⟨s1, hst, hi1, lastN_history_push hn0 v h x ht ht1⟩)
    xs [] s0 ⟨hinv0, by rw [htl0, lastN_history_nil]⟩
  exact ⟨s0, s', hnew, hf, ht' ▸ hi'.isMax, ht' ▸ hi'.isMin⟩

section SMMSection
variable {γ : Type} [LinearOrder γ] [TotalCmp γ] [TotalLike γ]

theorem C04_smm_step {s : SMM γ} (value : γ) (h : SMM.Inv P s) :
    ∃ s', s.step value = .ok s' ∧ SMM.Inv P s' ∧
      Window.toList s'.window = (Window.toList s.window).tail ++ [value] ∧ s'.half = s.half ∧ s'.half_m1 = s.half_m1 :=
  SMM.step_spec value h

theorem C04_smm {n : Nat} (v : γ) (hn0 : 0 < n) (hn : n ≤ P - 1) (xs : List γ) :
    ∃ s0 s', SMM.new P n v = .ok s0 ∧ (xs.foldlM (fun s x => SMM.step s x) s0 = .ok s') ∧
      s'.slice = (lastN n (history n v xs)).mergeSort (fun a b => decide (a ≤ b)) ∧
      s'.half = n / 2 ∧ s'.half_m1 = n / 2 - (if n % 2 = 0 then 1 else 0) ∧
      ∃ a b, s'.mid = .ok (a, b) ∧ s'.slice[n / 2]? = some a ∧ s'.slice[n / 2 - (if n % 2 = 0 then 1 else 0)]? = some b := by
  obtain ⟨s0, hnew, r0⟩ := SMM.Run.new (P := P) v hn0 hn
  obtain ⟨s', hf, r⟩ := foldlM_invariant SMM.step (SMM.Run P n v) (fun _ _ x r => r.step hn0 x) xs [] s0 r0
  exact ⟨s0, s', hnew, hf, r.slice, r.half, r.half_m1, r.mid hn0⟩
end SMMSection

theorem C04_zero_length (v : β) :
    (∃ e, Highest.new P 0 v = .err e) ∧ (∃ e, Lowest.new P 0 v = .err e) :=
  ⟨⟨_, rfl⟩, ⟨_, rfl⟩⟩

/-! Non-vacuity: the driver's scalar `FZ` (rationals with a signed zero) satisfies `FloatLike`;
    -0.0 and +0.0 are numerically equal and not bit-equal. -/
instance : FloatLike FZ ℚ where
  num := FZ.q
  lt_iff _ _ := Iff.rfl
  le_iff _ _ := Iff.rfl
  bitEq_refl a := by simp [BitEq.bitEq]
  bitEq_num a b h := by
    simp only [BitEq.bitEq, Bool.and_eq_true, beq_iff_eq] at h
    exact h.1

example : FloatLike.num (⟨0, true⟩ : FZ) = FloatLike.num (⟨0, false⟩ : FZ) ∧
    bitEq (⟨0, true⟩ : FZ) (⟨0, false⟩ : FZ) = false := by
  constructor
  · rfl
  · simp [BitEq.bitEq]

end Yata.C04

#print axioms Yata.C04.C04_highest
#print axioms Yata.C04.C04_lowest
#print axioms Yata.C04.C04_zero_length
#print axioms Yata.C04.C04_highest_index
#print axioms Yata.C04.C04_lowest_index
#print axioms Yata.C04.C04_newest_max_unique
#print axioms Yata.C04.C04_newest_min_unique
#print axioms Yata.C04.C04_smm_step
#print axioms Yata.C04.C04_smm
#print axioms Yata.C04.C04_hldelta
