/-
  C07 — Accuracy does not decay with the length of the stream.

  Proved (every length, every earlier history of every length, every construction value):
    * window locality: after at least `n` inputs the window — hence every sliding-window spec, and by C02/C04 the output
      of the corresponding machine — is that of a FRESH instance (constructed with any value) fed the last inputs only
      (`C07_window_locality`, `C07_specs_locality`; `C07_window_specs_locality` for SWMA, LinReg, SMM, Conv, variance /
      StDev, MeanAbsDev, MedianAbsDev, Highest, Lowest, HighestIndex, LowestIndex);
    * the exponential recurrences restart from their own value and forget the starting value like (1-α)^k; with 0 ≤ α ≤ 1
      the dependence on the whole earlier history is at most the difference of the starting values
      (`C07_recurrence_restarts`, `C07_exponential_forgetting`, `C07_forgetting_bound`);
      these two reduce "every history length" to a bounded suffix;
    * position counters: the model of the reversal detectors counts positions in unbounded `Nat` (as the repaired code
      does in `usize`), so nothing happens at PeriodType::MAX; the counter of HighestIndex / LowestIndex stays below the
      window length in every state that satisfies the invariant of C04, which every state reached from the constructor
      does (`C07_index_counter_bounded`);
    * SMA under the standard model of floating-point arithmetic (every operation exact up to relative error u, no
      overflow / underflow): the float recursion `value += (x − prev)·divider` stays within
      `t·(1+u)^t·u·M·(1 + 6(1+u)³/n)` of the exact model after t steps on inputs bounded by M (`C07_sma_float_drift`), the
      linear shape of the allowance of DESIGN §3.2; the rounding function is a parameter, IEEE round-to-nearest is one
      instance (that instance is assumed, not proved, to satisfy the standard model);
    * for the exponential recurrence the same model gives a bound that does not grow at all: the update is contractive and
      the drift stays below `c/(1−ρ)` at every step of every stream (`C07_ema_float_drift_uniform`);
    * WMA adds its running `total` into `numerator` at every step; the same analysis bounds the drift of `total` linearly
      and that of `numerator` only quadratically, `t·q^t·cN + t²·q^(2t+2)·cT` (`C07_wma_float_drift_quadratic`): this is
      why the linear allowance is *not* guaranteed for WMA / HMA on very long streams (known finding numeric-drift:hma);
    * Vidya (its |CMO| clamped to 1 by a `fix:` commit): started in ANY state — the two never-recomputed running sums may
      hold rounding residue of either sign — every output of every run stays inside the range of the data
      (`C07_vidya_residue_cannot_leave_range`); before the fix the output grew geometrically on a flat stretch.
  For the other running accumulators, and for the real arithmetic, floating-point drift over 10^4 … 10^6+ steps is
  measured, not proved: the correspondence run drives every method for a long stream with regime changes and compares,
  at late positions (dense around 255, 256, 65535, 65536), the output with a fresh exact model primed with the last window
  (allowance with k = t + n), and every single update of the recursive methods with one exact model step (L-step).
-/
import YataProofs.FloatBound
import YataProofs.Numeric.EMA
import YataProofs.VidyaRobust
import YataProofs.SelectionIndex
namespace Yata.C07
open Yata
variable {α : Type} {K : Type} [Field K] [LinearOrder K] [IsStrictOrderedRing K]

/-- the window after `xs ++ ys`, `|ys| ≥ n`, is that of a fresh instance constructed with ANY value `w` and fed `ys` only -/
theorem C07_window_locality (n : Nat) (v w : α) (xs ys : List α) (h : n ≤ ys.length) :
    lastN n (history n v (xs ++ ys)) = lastN n (history n w ys) := by
  unfold history
  rw [← List.append_assoc, lastN_append_of_le _ ys h, lastN_append_of_le _ ys h]

theorem C07_specs_locality (n : Nat) (v w : K) (xs ys : List K) (h : n ≤ ys.length) :
    Spec.sma n v (xs ++ ys) = Spec.sma n w ys ∧ Spec.wma n v (xs ++ ys) = Spec.wma n w ys ∧
    Spec.integral n v (xs ++ ys) = Spec.integral n w ys :=
  have e := C07_window_locality n v w xs ys h
  ⟨congrArg (Spec.mean n) e, congrArg (fun l => Spec.rampSum 1 l / ((n * (n + 1) / 2 : Nat) : K)) e, congrArg List.sum e⟩

theorem C07_window_specs_locality [Inhabited K] (n : Nat) (hn : 2 ≤ n) (v w : K) (xs ys : List K) (h : n ≤ ys.length)
    (ws : List K) (hw : ws.length ≤ ys.length) :
    Spec.swma n v (xs ++ ys) = Spec.swma n w ys ∧
    Spec.linreg n v (xs ++ ys) = Spec.linreg n w ys ∧
    Spec.smm n v (xs ++ ys) = Spec.smm n w ys ∧
    Spec.conv ws v (xs ++ ys) = Spec.conv ws w ys ∧
    Spec.variance n v (xs ++ ys) = Spec.variance n w ys ∧
    Spec.meanAbsDev n v (xs ++ ys) = Spec.meanAbsDev n w ys ∧
    Spec.medianAbsDev n v (xs ++ ys) = Spec.medianAbsDev n w ys ∧
    Spec.highest n v (xs ++ ys) = Spec.highest n w ys ∧
    Spec.lowest n v (xs ++ ys) = Spec.lowest n w ys ∧
    Spec.highestIndex n v (xs ++ ys) = Spec.highestIndex n w ys ∧
    Spec.lowestIndex n v (xs ++ ys) = Spec.lowestIndex n w ys := by
  have e := C07_window_locality n v w xs ys h
  have e' := C07_window_locality ws.length v w xs ys hw
  refine ⟨?_, ?_, ?_, ?_, ?_, ?_, ?_, ?_, ?_, ?_, ?_⟩
  · unfold Spec.swma; rw [if_neg (by omega), if_neg (by omega)]; unfold Spec.win; rw [e]
  · unfold Spec.linreg Spec.win; rw [e]
  · unfold Spec.smm Spec.win; rw [e]
  · unfold Spec.conv Spec.win; rw [e']
  · unfold Spec.variance Spec.win; rw [e]
  · unfold Spec.meanAbsDev Spec.win; rw [e]
  · unfold Spec.medianAbsDev Spec.win; rw [e]
  · unfold Spec.highest Spec.win; rw [e]
  · unfold Spec.lowest Spec.win; rw [e]
  · unfold Spec.highestIndex Spec.win; rw [e]
  · unfold Spec.lowestIndex Spec.win; rw [e]

/-- SMA's drift is at most linear in the number of steps (standard model of rounding; `fl` any rounding with relative
    error ≤ u, `d` the rounded `1/n`) -/
theorem C07_sma_float_drift {P n : Nat} (hn : 0 < n) (M : K) (fl : K → K) (u : K) (hu : 0 ≤ u)
    (hfl : ∀ x, |fl x - x| ≤ u * |x|) (d : K) (hd : |d - 1 / (n : K)| ≤ u / (n : K))
    (xs hist : List K) (s : SMA K) (hinv : SMA.Inv P n hist s) (hh : ∀ x ∈ hist, |x| ≤ M) (hx : ∀ x ∈ xs, |x| ≤ M) :
    ∃ outs s', runM SMA.next s xs = .ok (outs, s') ∧
      |FloatBound.smaFl fl d s.value (FloatBound.pairsOfRun s xs) - s'.value| ≤
        (xs.length : K) * (1 + u) ^ xs.length * (u * M * (1 + 6 * (1 + u) ^ 3 / (n : K))) := by
  obtain ⟨hl, hb, outs, s', hr, hv⟩ := FloatBound.model_run (P := P) hn M xs hist s hinv hh hx
  refine ⟨outs, s', hr, ?_⟩
  have := FloatBound.sma_run_bound fl u hu hfl (n : K) (Nat.cast_pos.mpr hn) d hd M _ rfl (FloatBound.pairsOfRun s xs)
    s.value s.value hb 0 (FloatBound.start_bound _ _ _)
  rwa [Nat.zero_add, hl, ← hv] at this

/-- EMA's drift is bounded uniformly in the length of the stream (standard model of rounding; ρ < 1 holds whenever α is
    not of the order of the unit round-off) -/
theorem C07_ema_float_drift_uniform (fl : K → K) (u : K) (hu : 0 ≤ u) (hfl : ∀ x, |fl x - x| ≤ u * |x|)
    (α : K) (h0 : 0 ≤ α) (h1 : α ≤ 1) (a : K) (ha : |a - α| ≤ u * α) (M : K)
    (hρ : (1 + u) * (1 - α + ((1 + u) ^ 3 - 1) * α) < 1)
    (xs : List K) (hx : ∀ x ∈ xs, |x| ≤ M) (v0 : K) (hv : |v0| ≤ M) :
    |FloatBound.emaFl fl a v0 xs - Spec.emaRec α v0 xs| ≤
      ((1 + u) * ((1 + u) ^ 3 - 1) * α * (2 * M) + u * M) / (1 - (1 + u) * (1 - α + ((1 + u) ^ 3 - 1) * α)) := by
  have hpos : 0 < 1 - (1 + u) * (1 - α + ((1 + u) ^ 3 - 1) * α) := sub_pos.2 hρ
  have hM : 0 ≤ M := le_trans (abs_nonneg _) hv
  have hc : 0 ≤ (1 + u) * ((1 + u) ^ 3 - 1) * α * (2 * M) + u * M :=
    add_nonneg (mul_nonneg (mul_nonneg (mul_nonneg (add_nonneg zero_le_one hu) (FloatBound.gamma_nonneg hu)) h0)
      (mul_nonneg zero_le_two hM)) (mul_nonneg hu hM)
  -- the bound is the fixed point `c / (1 − ρ)` of the step; both recursions start at `v0`
  exact FloatBound.ema_run_bound fl u hu hfl α h0 h1 a ha M _ _ rfl rfl _ (mul_div_cancel₀ _ hpos.ne').ge xs hx v0 v0 hv
    (by rw [sub_self, abs_zero]; exact div_nonneg hc hpos.le)

/-- WMA (the recursion `numerator += L·x + total; total += prev − x` with the model's exact values as reference): the
    provable drift bound is quadratic in the number of steps -/
theorem C07_wma_float_drift_quadratic (fl : K → K) (u : K) (hu : 0 ≤ u) (hfl : ∀ x, |fl x - x| ≤ u * |x|)
    (L M A B : K) (hL : 0 ≤ L) (hM : 0 ≤ M) (hA : 0 ≤ A) (hB : 0 ≤ B) (steps : List (K × K)) (N0 T0 : K)
    (hb : FloatBound.BoundedW L M A B (N0, T0) steps) :
    |(FloatBound.wmaFl fl L (N0, T0) steps).1 - (FloatBound.wmaEx L (N0, T0) steps).1| ≤
      (steps.length : K) * (1 + u) ^ steps.length * ((1 + u) * u * (L * M + A) + u * B) +
        (steps.length : K) ^ 2 * (1 + u) ^ (2 * steps.length + 2) * (u * A + 2 * u * M * (1 + u)) := by
  have := (FloatBound.wma_run_bound fl u hu hfl L M A B hL _ _ rfl rfl (by positivity) (by positivity) steps.length steps
    N0 T0 N0 T0 0 (Nat.zero_add _).le hb (FloatBound.start_bound _ _ _) (FloatBound.start_bound _ _ _)).2
  rw [Nat.zero_add] at this
  exact this.trans_eq (by ring)

/-- the exact recursion used above is the model's own update -/
theorem C07_wma_model_update (s : WMA K) (x prev : K) (w : Window K) (h : s.window.push x = .ok (prev, w)) :
    ∃ s', s.next x = .ok (s'.numerator * s'.invert_sum, s') ∧
      (s'.numerator, s'.total) = FloatBound.wmaEx s.float_length (s.numerator, s.total) [(x, prev)] := by
  refine ⟨{ s with numerator := s.numerator + (s.float_length * x + s.total), total := s.total + (prev - x), window := w }, ?_, rfl⟩
  simp [WMA.next, h, WMA.peek]

theorem C07_recurrence_restarts (a v : K) (xs ys : List K) :
    Spec.emaRec a v (xs ++ ys) = Spec.emaRec a (Spec.emaRec a v xs) ys := Spec.emaRec_append a v xs ys

theorem C07_exponential_forgetting (a v w : K) (ys : List K) :
    Spec.emaRec a v ys - Spec.emaRec a w ys = (1 - a) ^ ys.length * (v - w) := by
  induction ys generalizing v w with
  | nil => simp [Spec.emaRec]
  | cons y t ih =>
    simp only [Spec.emaRec, List.length_cons, ih]
    ring

theorem C07_forgetting_bound (a v w : K) (ys : List K) (h0 : 0 ≤ a) (h1 : a ≤ 1) :
    |Spec.emaRec a v ys - Spec.emaRec a w ys| ≤ |v - w| := by
  rw [C07_exponential_forgetting, abs_mul, abs_pow]
  have hb : |1 - a| ≤ 1 := abs_sub_le_of_nonneg_of_le zero_le_one le_rfl h0 h1
  exact mul_le_of_le_one_left (abs_nonneg _) (pow_le_one₀ (abs_nonneg _) hb)

/-- whatever the past left in Vidya's running sums, a run over inputs from `[lo, hi]` that starts with its previous output
    in `[lo, hi]` keeps every output in `[lo, hi]` (`0 ≤ f ≤ 1` holds for every accepted length: `f = 2/(1+n)`, `n ≥ 1`) -/
theorem C07_vidya_residue_cannot_leave_range (lo hi : K) (xs : List K) (s : Vidya K) (os : List K) (s' : Vidya K)
    (hf0 : 0 ≤ s.f) (hf1 : s.f ≤ 1) (hl : lo ≤ s.last_output) (hh : s.last_output ≤ hi)
    (hx : ∀ x ∈ xs, lo ≤ x ∧ x ≤ hi) (hr : runM Vidya.next s xs = .ok (os, s')) : ∀ o ∈ os, lo ≤ o ∧ o ≤ hi :=
  Vidya.run_hull_any_state lo hi xs s os s' hf0 hf1 hl hh hx hr

section
variable {β K' : Type} [LinearOrder K'] [FloatLike β K'] [DecidableLT β] [DecidableLE β] {P : Nat}
/-- the position counters of HighestIndex / LowestIndex are advanced in PeriodType arithmetic (`self.index += 1`); in
    every invariant state (every state reachable from the constructor, by `next_spec`) they are below the window length,
    which is at most `PeriodType::MAX − 1`: the increment never reaches the capacity of PeriodType however long the stream -/
theorem C07_index_counter_bounded :
    (∀ s : HighestIndex β, HighestIndex.Inv P s → s.index < s.window.size ∧ s.window.size ≤ P - 1 ∧
        chkAdd P s.index 1 = .ok (s.index + 1)) ∧
    (∀ s : LowestIndex β, LowestIndex.Inv P s → s.index < s.window.size ∧ s.window.size ≤ P - 1 ∧
        chkAdd P s.index 1 = .ok (s.index + 1)) :=
  ⟨fun _ h => HighestIndex.counter_ok h, fun _ h => HighestIndex.counter_ok (LowestIndex.inv_iff_dual.mp h)⟩
end

example : lastN 2 (history 2 (0 : Nat) ([9, 9, 9, 9] ++ [1, 2])) = lastN 2 (history 2 5 [1, 2]) := by decide

end Yata.C07

#print axioms Yata.C07.C07_window_locality
#print axioms Yata.C07.C07_specs_locality
#print axioms Yata.C07.C07_recurrence_restarts
#print axioms Yata.C07.C07_exponential_forgetting
#print axioms Yata.C07.C07_forgetting_bound
#print axioms Yata.C07.C07_window_specs_locality
#print axioms Yata.C07.C07_sma_float_drift
#print axioms Yata.C07.C07_ema_float_drift_uniform
#print axioms Yata.C07.C07_wma_float_drift_quadratic
#print axioms Yata.C07.C07_wma_model_update
#print axioms Yata.C07.C07_vidya_residue_cannot_leave_range
#print axioms Yata.C07.C07_index_counter_bounded
