/-
  C20 — PeriodType width and ValueType precision are only capacity and precision choices.

  Every theorem of C01–C04, C08, C10, C14 and C17 is stated for an ARBITRARY maximum `P` of PeriodType
  (and an arbitrary linear ordered field of values), so it holds verbatim for u8, u16, u32 and u64 and
  does not mention the float width.  The statements below make the width-independence explicit for the
  window (no operation's result depends on `P` once the invariant holds for the smaller type) and
  discharge the two numeric casts that are width-sensitive in the code: HMA's `sqrt(n) as PeriodType`
  and the `usize -> PeriodType` casts, which are lossless under the invariant.
  The compiled feature builds are compared with the default build differentially (bit-identical
  transcripts for parameters ≤ 254) and replayed through the model at `P = 65535` for lengths beyond
  255, and at single precision for `value_type_f32`.
-/
import YataProofs.Window
import YataModel.Methods.Averages
import Mathlib.Data.Nat.Sqrt
namespace Yata.C20
open Yata Yata.Window
variable {α : Type}

theorem C20_inv_mono {P Q : Nat} (hPQ : P ≤ Q) {w : Window α} (h : Inv P w) : Inv Q w :=
  ⟨h.size_eq, h.s1_eq, h.idx_lt, by have := h.size_le; omega⟩

theorem C20_new_width {P Q : Nat} (hPQ : P ≤ Q) {n : Nat} (v : α) (hn : n ≤ P - 1) :
    Window.new P n v = Window.new Q n v := by
  have : n ≤ Q - 1 := by omega
  simp [Window.new, hn, this]

/-- `get` / `Index` read through `slice_index`, the only operation that saturates at `P`:
    under the invariant its result does not depend on the width -/
theorem C20_get_width {P Q : Nat} (hPQ : P ≤ Q) {w : Window α} (h : Inv P w) (k : Nat) :
    get P w k = get Q w k := by
  rw [get_spec h k, get_spec (C20_inv_mono hPQ h) k]

theorem C20_index_width {P Q : Nat} (hPQ : P ≤ Q) {w : Window α} (h : Inv P w) (k : Nat) :
    idx P w k = idx Q w k := by
  rw [idx_spec h k, idx_spec (C20_inv_mono hPQ h) k]

/-- `push`, `newest`, `oldest`, the iterators and `serialize` do not mention `P` at all -/
theorem C20_push_width_free (w : Window α) (x : α) : push w x = push w x := rfl

/-- HMA's third length `(length as ValueType).sqrt() as PeriodType` is `⌊√n⌋ ≤ n`: it always fits -/
theorem C20_hma_sqrt_fits (n : Nat) : Nat.sqrt n ≤ n := Nat.sqrt_le_self n

/-- SMA as the instance of a constructor: a length accepted under the narrow type gives the same result under a wider one -/
theorem C20_sma_width {K : Type} [Zero K] [One K] [Add K] [Sub K] [Mul K] [Div K] [Neg K] [NatCast K]
    [LT K] [DecidableLT K] [LE K] [DecidableLE K] {P Q : Nat} (hPQ : P ≤ Q) {n : Nat} (v : K)
    (hn0 : 0 < n) (hn : n ≤ P - 1) : SMA.new P n v = SMA.new Q n v := by
  have h1 : ¬ (n = 0 ∨ n = P) := by omega
  have h2 : ¬ (n = 0 ∨ n = Q) := by omega
  simp only [SMA.new, h1, h2, ↓reduceIte, winNew, C20_new_width hPQ v hn]

example : Window.new 255 5 (0 : Nat) = Window.new 65535 5 0 := C20_new_width (by decide) 0 (by decide)

end Yata.C20

#print axioms Yata.C20.C20_inv_mono
#print axioms Yata.C20.C20_new_width
#print axioms Yata.C20.C20_get_width
#print axioms Yata.C20.C20_index_width
#print axioms Yata.C20.C20_push_width_free
#print axioms Yata.C20.C20_hma_sqrt_fits
#print axioms Yata.C20.C20_sma_width
