/-
  C03 — Recursive methods follow their documented recurrences.

  In every linear ordered field, for every length accepted by the constructor, every
  construction value and every stream:
    * EMA is the recurrence `e ← (x − e)·α + e` with `α = 2/(n+1)`;
    * RMA is the same recurrence with `α = 1/n`; WSMA(n) is an EMA with `α = 1/n` exactly;
    * DMA / TMA are EMA of EMA (of EMA); DEMA = 2·EMA − EMA(EMA);
      TEMA = 3·(EMA − EMA(EMA)) + EMA(EMA(EMA)); in the statements `e1 a v`, `e2 a v`, `e3 a v` (Numeric/EMA.lean) are
      the one-, two- and threefold recurrence with smoothing `a` on a stream;
    * TSI is the quotient of the doubly smoothed changes and doubly smoothed absolute changes (`C03_tsi`);
    * Vidya follows its adaptive recurrence (`C03_vidya`);
    * the windowless ADI and the windowless Integral are cumulative sums (`C03_adi0`, `C03_integral0`);
    * TR returns the true range against the previous close; HeikinAshi's open follows
      `open' = (open + ohlc4)/2`.
  Every C03 method has its theorem; independently the correspondence run compares Rust with the exact model and the model
  with the from-scratch spec of `YataModel/Spec.lean` on every step.
-/
import YataProofs.Numeric.TSI
import YataProofs.Numeric.Vidya
import YataModel.Methods.Candles
namespace Yata.C03
open Yata
variable {K : Type} [Field K] [LinearOrder K] [IsStrictOrderedRing K]

theorem C03_constants {P n : Nat} (v : K) (hn0 : 0 < n) :
    (n ≤ P - 1 → EMA.new P n v = .ok { alpha := ((2 : Nat) : K) / ((n + 1 : Nat) : K), value := v }) ∧
    (RMA.new P n v = .ok { alpha := 1 / (n : K), alpha_rev := 1 - 1 / (n : K), prev_value := v }) ∧
    (n ≤ P / 2 → WSMA.new P n v = .ok { ema := { alpha := 1 / (n : K), value := v } }) :=
  ⟨EMA.new_eq v hn0, RMA.new_eq v hn0, WSMA.new_eq v hn0⟩

/-- EMA (and therefore WSMA): every output is the recurrence applied to the stream so far -/
theorem C03_ema (a v : K) (xs : List K) :
    ∃ outs, runM (liftNext EMA.next) { alpha := a, value := v } xs =
        .ok (outs, { alpha := a, value := Spec.emaRec a v xs }) ∧ outs.length = xs.length ∧
      ∀ i (hi : i < outs.length), outs[i] = Spec.emaRec a v (xs.take (i + 1)) :=
  EMA.run_spec a v xs

/-- RMA's two-constant update is that same recurrence -/
theorem C03_rma_step (s : RMA K) (x : K) (h : s.alpha_rev = 1 - s.alpha) :
    (s.next x).1 = (x - s.prev_value) * s.alpha + s.prev_value ∧
    (s.next x).2 = { s with prev_value := (s.next x).1 } :=
  ⟨by simp only [RMA.next, h]; ring, rfl⟩

theorem C03_dma (a v : K) (xs : List K) :
    ∃ outs s', runM (liftNext DMA.next) { ema := ⟨a, v⟩, dma := ⟨a, v⟩ } xs = .ok (outs, s') ∧
      outs.length = xs.length ∧ ∀ i (hi : i < outs.length), outs[i] = e2 a v (xs.take (i + 1)) :=
  DMA.run_spec a v xs

theorem C03_tma (a v : K) (xs : List K) :
    ∃ outs s', runM (liftNext TMA.next) { dma := { ema := ⟨a, v⟩, dma := ⟨a, v⟩ }, tma := ⟨a, v⟩ } xs = .ok (outs, s') ∧
      outs.length = xs.length ∧ ∀ i (hi : i < outs.length), outs[i] = e3 a v (xs.take (i + 1)) :=
  TMA.run_spec a v xs

theorem C03_dema (a v : K) (xs : List K) :
    ∃ outs s', runM (liftNext DEMA.next) { ema := ⟨a, v⟩, dma := ⟨a, v⟩ } xs = .ok (outs, s') ∧
      outs.length = xs.length ∧
      ∀ i (hi : i < outs.length), outs[i] = 2 * e1 a v (xs.take (i + 1)) - e2 a v (xs.take (i + 1)) :=
  DEMA.run_spec a v xs

theorem C03_tema (a v : K) (xs : List K) :
    ∃ outs s', runM (liftNext TEMA.next) { ema := ⟨a, v⟩, dma := ⟨a, v⟩, tma := ⟨a, v⟩ } xs = .ok (outs, s') ∧
      outs.length = xs.length ∧
      ∀ i (hi : i < outs.length),
        outs[i] = 3 * (e1 a v (xs.take (i + 1)) - e2 a v (xs.take (i + 1))) + e3 a v (xs.take (i + 1)) :=
  TEMA.run_spec a v xs

/-- TSI: EMA_short(EMA_long(change)) / EMA_short(EMA_long(|change|)), all seeded with 0, and `0` exactly when the
    denominator is not positive (no absolute threshold) — for every stream and position -/
theorem C03_tsi {P short long : Nat} (v : K) (hs0 : 0 < short) (hs : short ≤ P - 1) (hl0 : 0 < long) (hl : long ≤ P - 1)
    (xs : List K) :
    ∃ s0 outs s', TSI.new P short long v = .ok s0 ∧ runM (liftNext TSI.next) s0 xs = .ok (outs, s') ∧
      outs.length = xs.length ∧ ∀ i (hi : i < outs.length), outs[i] = Spec.tsi short long v (xs.take (i + 1)) := by
  apply method_spec _ _ (TSI.Inv _ _ v) _ (TSI.new_spec v hs0 hs hl0 hl)
  intro h s x hinv
  obtain ⟨h1, h2⟩ := TSI.next_spec x hinv
  exact ⟨_, _, rfl, h1, h2⟩

/-- Vidya: the exponential average with smoothing 2/(n+1)·|CMO of the last n changes|, the input itself when there was
    no movement in the window — for every stream and position -/
theorem C03_vidya {P n : Nat} (v : K) (hn0 : 0 < n) (hn : n ≤ P - 1) (xs : List K) :
    ∃ s0 outs s', Vidya.new P n v = .ok s0 ∧ runM Vidya.next s0 xs = .ok (outs, s') ∧
      outs.length = xs.length ∧ ∀ i (hi : i < outs.length), outs[i] = Spec.vidya n v (xs.take (i + 1)) :=
  Vidya.run_spec v hn0 hn xs

/-- windowless ADI: the cumulative sum of CLV·volume -/
theorem C03_adi0 {P : Nat} (hP : 0 < P) (c0 : Candle K) (cs : List (Candle K)) :
    ∃ s0 outs s', ADI.new P 0 c0 = .ok s0 ∧ runM ADI.next s0 cs = .ok (outs, s') ∧
      outs.length = cs.length ∧
      ∀ i (hi : i < outs.length), outs[i] = ((cs.take (i + 1)).map fun c => c.clv * c.volume).sum := by
  apply method_spec (ADI.new P 0 c0) ADI.next
    (fun h (s : ADI K) => s.window = Window.empty ∧ s.cmf_sum = (h.map fun c => c.clv * c.volume).sum)
    (fun h => (h.map fun c => c.clv * c.volume).sum)
  · exact ⟨{ cmf_sum := 0, window := Window.empty }, by simp [ADI.new, show (0 : Nat) ≠ P by omega], rfl, by simp⟩
  · intro h s x ⟨hw, hv⟩
    exact ⟨s.cmf_sum + x.clv * x.volume, { s with cmf_sum := s.cmf_sum + x.clv * x.volume },
      by simp [ADI.next, hw, Window.isEmpty, Window.empty], ⟨hw, by simp [hv]⟩, by simp [hv]⟩

/-- windowless Integral: the cumulative sum of everything fed -/
theorem C03_integral0 {P : Nat} (hP : 0 < P) (v : K) (xs : List K) :
    ∃ s0 outs s', Integral.new P 0 v = .ok s0 ∧ runM Integral.next s0 xs = .ok (outs, s') ∧
      outs.length = xs.length ∧ ∀ i (hi : i < outs.length), outs[i] = Spec.integral0 (xs.take (i + 1)) := by
  apply method_spec _ _ (fun h s => s.window = Window.empty ∧ s.value = Spec.integral0 h)
  · exact ⟨⟨v * ((0 : Nat) : K), Window.empty⟩,
      by simp [Integral.new, (show 0 ≠ P by omega), winNew, Window.new, Res.ofExcept, Res.bind, Window.empty, satSub], rfl,
      by simp [Spec.integral0]⟩
  · intro h s x ⟨hw, hv⟩
    exact ⟨s.value + x, { s with value := s.value + x }, by simp [Integral.next, hw, Window.isEmpty, Window.empty],
      ⟨hw, by simp [Spec.integral0, hv]⟩, by simp [Spec.integral0, hv]⟩

/-- TR: single-subtraction true range against the previous close, which is then replaced -/
theorem C03_tr (s : TR K) (c : Candle K) :
    (s.next c).1 = smax c.high s.prev_close - smin c.low s.prev_close ∧ (s.next c).2.prev_close = c.close :=
  ⟨rfl, rfl⟩

theorem C03_heikin_ashi (s : HeikinAshi K) (c : Candle K) :
    (s.next c).1.open_ = s.next_open ∧ (s.next c).1.close = c.ohlc4 ∧
    (s.next c).2.next_open = (s.next_open + c.ohlc4) * (1 / ((2 : Nat) : K)) ∧
    (s.next c).1.high = smax c.high s.next_open ∧ (s.next c).1.low = smin c.low s.next_open ∧
    (HeikinAshi.new c).next_open = c.ohlc4 :=
  ⟨rfl, rfl, rfl, rfl, rfl, rfl⟩

/-! the recurrence on numbers: from 0, two inputs 4 with smoothing 1/2 give 2, then 3 -/
example : Spec.emaRec (1 / 2 : ℚ) 0 [4, 4] = 3 := by norm_num [Spec.emaRec]

end Yata.C03

#print axioms Yata.C03.C03_constants
#print axioms Yata.C03.C03_ema
#print axioms Yata.C03.C03_rma_step
#print axioms Yata.C03.C03_dma
#print axioms Yata.C03.C03_tma
#print axioms Yata.C03.C03_dema
#print axioms Yata.C03.C03_tema
#print axioms Yata.C03.C03_tsi
#print axioms Yata.C03.C03_vidya
#print axioms Yata.C03.C03_adi0
#print axioms Yata.C03.C03_integral0
#print axioms Yata.C03.C03_tr
#print axioms Yata.C03.C03_heikin_ashi
