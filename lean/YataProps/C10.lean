/-
  C10 — Invalid parameters are rejected with an error; accepted instances never panic.

  For every maximum `P ≥ 2` of PeriodType and EVERY parameter value `0 ≤ n ≤ P` (every pair for the
  two-parameter methods) the model constructor returns `Ok` or `Err` — never a panic or an overflow
  — and returns `Err` on the documented too-small lengths and on `PeriodType::MAX`.
  "Accepted instances never panic" is part of the C02/C03/C04/C14/C17 theorems for the methods
  proved there (`runM … = .ok …` for every stream); it is proved for the moving averages of every kind from the constructor
  (`C10_every_ma_kind_never_panics`) and, among the indicators, for Ichimoku, MoneyFlowIndex, TrendStrengthIndex and Donchian
  (`C10_indicators_never_panic`) and for RSI, MACD and ADX configured with any kinds of moving average
  (`C10_configurable_indicators_never_panic`), each over whole candle streams; an indicator's `init`
  returns `WrongConfig` wherever its `validate` refuses (`C10_indicator_validate_rejects`, five representative models;
  every model's init result is compared with the real `init` for every generated configuration). For the others it is
  covered by the correspondence run: all 256 values of every length parameter (all 65 536 pairs in
  the thorough tier) in debug and release builds, every indicator parameter swept over all its
  values / boundary classes incl. NaN and infinities, accepted instances driven with valid candles.
  String parsing is total by C18 (`parseMA`, `parseSource` are total functions compared with Rust).
-/
import YataProofs.Ctors
import YataProps.C05
import YataProps.C12
namespace Yata.C10
open Yata
variable {K : Type} [Field K] [LinearOrder K] [IsStrictOrderedRing K] [DecidableEq K]

theorem C10_constructors_total (P : Nat) (hP : 2 ≤ P) (n : Nat) (hn : n ≤ P) (v : K) :
    (SMA.new P n v).noPanic ∧ (WMA.new P n v).noPanic ∧ (EMA.new P n v).noPanic ∧ (DMA.new P n v).noPanic ∧
    (TMA.new P n v).noPanic ∧ (DEMA.new P n v).noPanic ∧ (TEMA.new P n v).noPanic ∧ (RMA.new P n v).noPanic ∧
    (WSMA.new P n v).noPanic ∧ (SWMA.new P n v).noPanic ∧ (TRIMA.new P n v).noPanic ∧ (HMA.new P n v).noPanic ∧
    (LinReg.new P n v).noPanic ∧ (StDev.new P n v).noPanic ∧ (Integral.new P n v).noPanic ∧
    (Derivative.new P n v).noPanic ∧ (Momentum.new P n v).noPanic ∧ (RateOfChange.new P n v).noPanic ∧
    (LinearVolatility.new P n v).noPanic ∧ (Vidya.new P n v).noPanic :=
  ⟨(SMA.new_total P n hn v).1, (WMA.new_total P n hn v).1, (EMA.new_total P n hn v).1,
   (DMA.new_total P n hn v).1, (TMA.new_total P n hn v).1, (DEMA.new_total P n hn v).1,
   (TEMA.new_total P n hn v).1, (RMA.new_total P n v).1, (WSMA.new_total P n v).1,
   (SWMA.new_total P n hn v).1, (TRIMA.new_total P n hn v).1, (HMA.new_total P n hn v).1,
   (LinReg.new_total P n hn v).1, (StDev.new_total P n hn v).1, (Integral.new_total P n hn v).1,
   (Derivative.new_total P n hn v).1, (Momentum.new_total P n hn v).1, (RateOfChange.new_total P n hn v).1,
   (LinearVolatility.new_total P n hn v).1, (Vidya.new_total P n hn v).1⟩

theorem C10_rejections (P : Nat) (hP : 2 ≤ P) (n : Nat) (hn : n ≤ P) (v : K) :
    (n = 0 ∨ n = P → (SMA.new P n v).isErr ∧ (WMA.new P n v).isErr ∧ (EMA.new P n v).isErr ∧
      (SWMA.new P n v).isErr ∧ (Momentum.new P n v).isErr ∧ (Derivative.new P n v).isErr) ∧
    (n = 0 ∨ n = 1 ∨ n = P → (HMA.new P n v).isErr ∧ (LinReg.new P n v).isErr ∧ (StDev.new P n v).isErr) ∧
    (n = 0 ∨ n > P / 2 → (WSMA.new P n v).isErr) ∧ (n = P → (Integral.new P n v).isErr) :=
  ⟨fun h => ⟨(SMA.new_total P n hn v).2 h, (WMA.new_total P n hn v).2 h, (EMA.new_total P n hn v).2 h,
     (SWMA.new_total P n hn v).2 h, (Momentum.new_total P n hn v).2 h, (Derivative.new_total P n hn v).2 h⟩,
   fun h => ⟨(HMA.new_total P n hn v).2 h, (LinReg.new_total P n hn v).2 h, (StDev.new_total P n hn v).2 h⟩,
   (WSMA.new_total P n v).2, (Integral.new_total P n hn v).2⟩

theorem C10_two_parameter_constructors (P : Nat) (hP : 2 ≤ P) (a b : Nat) (ha : a ≤ P) (hb : b ≤ P) (v : K) :
    (UpperReversalSignal.new P a b v).noPanic ∧ (LowerReversalSignal.new P a b v).noPanic ∧ (TSI.new P a b v).noPanic :=
  ⟨UpperReversalSignal.new_total P a b v, LowerReversalSignal.new_total P a b v,
   TSI.new_total P a b ha hb v⟩

/-- Conv: the weight vector must have between 1 and MAX − 1 entries -/
theorem C10_conv (P : Nat) (hP : 2 ≤ P) (ws : List K) (v : K) :
    (Conv.new P ws v).noPanic ∧ (ws.length = 0 ∨ ws.length ≥ P → (Conv.new P ws v).isErr) := by
  unfold Conv.new
  split
  · exact ⟨Res.noPanic_bind (window_noPanic v (by omega)) fun _ => trivial, fun h => by omega⟩
  · exact ⟨trivial, fun _ => trivial⟩

/-- accepted instances never panic (one instance; the same conclusion is part of every C02–C04 theorem) -/
theorem C10_accepted_sma_never_panics {P n : Nat} (v : K) (hn0 : 0 < n) (hn : n ≤ P - 1) (xs : List K) :
    ∃ s0 outs s', SMA.new P n v = .ok s0 ∧ runM SMA.next s0 xs = .ok (outs, s') := by
  obtain ⟨s0, outs, s', h1, h2, _⟩ := Yata.C02.C02_sma v hn0 hn xs
  exact ⟨s0, outs, s', h1, h2⟩

open Yata.Ind in
/-- accepted indicator instances never panic, over every candle stream (exact-arithmetic models) -/
theorem C10_indicators_never_panic {P : Nat} (cs : List (Candle ℚ)) :
    (∀ (c : IchiCfg) (k0 : Candle ℚ), 0 < c.l1 → c.l1 < c.l2 → c.l2 < c.l3 → c.l3 ≤ P - 1 → 0 < c.m → c.m < P →
      ∃ s0 outs s', Ichi.init P c k0 = .ok s0 ∧ runM Ichi.vals s0 cs = .ok (outs, s')) ∧
    (∀ (period : Nat) (zone : ℚ) (c0 : Candle ℚ) (s0 : MFI), MFI.init P period zone c0 = .ok s0 →
      (∀ c ∈ cs, 0 ≤ c.volume) → ∃ outs s', runM MFI.vals s0 cs = .ok (outs, s')) ∧
    (∀ (period ro : Nat) (zone : ℚ) (source : Source) (src0 : ℚ) (s0 : TSInd) (xs : List ℚ),
      TSInd.init P period zone ro source src0 = .ok s0 → ∃ outs s', runM TSInd.vals s0 xs = .ok (outs, s')) ∧
    (∀ (n : Nat) (k0 : Candle ℚ), 1 < n → n ≤ P - 1 →
      ∃ s0 outs s', Channel.init P n 1 true k0 = .ok s0 ∧ runM (fun s k => Channel.donchianVals s k) s0 cs = .ok (outs, s')) := by
  refine ⟨?_, ?_, ?_, ?_⟩
  · intro c k0 h1 h12 h23 h3 hm0 hm
    obtain ⟨s0, outs, s', a, b, _⟩ := Ichi.run_ok (P := P) c k0 h1 h12 h23 h3 hm0 hm cs
    exact ⟨s0, outs, s', a, b⟩
  · intro period zone c0 s0 h0 hv
    obtain ⟨outs, s', a, _⟩ := Yata.C12.C12_mfi_reachable zone c0 s0 h0 cs hv
    exact ⟨outs, s', a⟩
  · intro period ro zone source src0 s0 xs h0
    obtain ⟨outs, s', a, _⟩ := Yata.C12.C12_trend_strength_range zone source src0 s0 h0 xs
    exact ⟨outs, s', a⟩
  · intro n k0 hn1 hn
    obtain ⟨s0, outs, s', a, b, _⟩ := Yata.C05.C05_donchian_run (P := P) k0 hn1 hn cs
    exact ⟨s0, outs, s', a, b⟩

open Yata.Ind in
/-- `init` returns `WrongConfig` on every configuration that `validate` refuses (five representative indicator models) -/
theorem C10_indicator_validate_rejects (P : Nat) (k : Candle ℚ) :
    (∀ c : IchiCfg, Ichi.validate P c = false → Ichi.init P c k = .err .wrongConfig) ∧
    (∀ c : StochCfg, Stoch.validate c = false → Stoch.init P c k = .err .wrongConfig) ∧
    (∀ c : KeltnerCfg, Keltner.validate c = false → Keltner.init P c k = .err .wrongConfig) ∧
    (∀ c : EnvCfg, Env.validate c = false → Env.init P c k = .err .wrongConfig) ∧
    (∀ c : AOCfg, AO.validate P c = false → AO.init P c k = .err .wrongConfig) :=
  ⟨fun c h => by simp [Ichi.init, h], fun c h => by simp [Stoch.init, h], fun c h => by simp [Keltner.init, h],
   fun c h => by simp [Env.init, h], fun c h => by simp [AO.init, h]⟩

open Yata.Ind in
/-- accepted moving averages never panic, EVERY kind: from the constructor (any accepted length, any first value) every
    run over every stream succeeds and returns the documented formula at every step -/
theorem C10_every_ma_kind_never_panics {P : Nat} (k : MAKind) (n : Nat) (v : ℚ) (h : validLen P k n) (xs : List ℚ) :
    ∃ m outs m', MA.init P { kind := k, length := n } v = .ok m ∧ runM MAInst.next m xs = .ok (outs, m') ∧
      outs.length = xs.length ∧ ∀ i (hi : i < outs.length), outs[i] = specOf k n v (xs.take (i + 1)) := by
  obtain ⟨m, hm, hr⟩ := every_kind_realises (P := P) ⟨k, n⟩ v h
  obtain ⟨outs, m', hrun, _, hlen, houts⟩ := hr.run xs
  exact ⟨m, outs, m', hm, hrun, hlen, fun i hi => by simpa using houts i hi⟩

open Yata.Ind in
/-- accepted indicator instances configured with ANY kinds of moving average never panic, over every candle stream:
    RSI, MACD, ADX (each from its constructor) -/
theorem C10_configurable_indicators_never_panic {P : Nat} (cs : List (Candle ℚ)) :
    (∀ (c : RSICfg) (k0 : Candle ℚ), RSI.validate c = true → validLen P c.ma.kind c.ma.length →
      ∃ s0 outs s', RSI.init P c k0 = .ok s0 ∧ runM RSI.vals s0 cs = .ok (outs, s')) ∧
    (∀ (c : MACDCfg) (k0 : Candle ℚ), MACD.validate c = true → validLen P c.ma1.kind c.ma1.length →
      validLen P c.ma2.kind c.ma2.length → validLen P c.signal.kind c.signal.length →
      ∃ s0 outs s', MACD.init P c k0 = .ok s0 ∧ runM (fun s k => s.vals k none) s0 cs = .ok (outs, s')) ∧
    (∀ (m1 m2 : MA) (period1 : Nat) (zone : ℚ) (k0 : Candle ℚ) (s0 : ADX), validLen P m1.kind m1.length →
      validLen P m2.kind m2.length → ADX.init P m1 m2 period1 zone k0 = .ok s0 →
      ∃ outs s', runM ADX.step s0 cs = .ok (outs, s')) := by
  refine ⟨?_, ?_, ?_⟩
  · intro c k0 hv h1
    obtain ⟨s0, outs, s', a, b, _⟩ := Yata.C12.C12_rsi_run_every_kind c k0 hv h1 cs
    exact ⟨s0, outs, s', a, b⟩
  · intro c k0 hv h1 h2 h3
    obtain ⟨s0, outs, s', a, b, _⟩ := Yata.C05.C05_macd_run (P := P) c k0 hv h1 h2 h3 cs
    exact ⟨s0, outs, s', a, b⟩
  · intro m1 m2 period1 zone k0 s0 h1 h2 h0
    obtain ⟨outs, s', a, _⟩ := ADX.run_range m1 m2 period1 zone k0 s0 h1 h2 h0 cs
    exact ⟨outs, s', a⟩


/-! non-vacuity: the default PeriodType -/
example : (SMA.new 255 255 (1 : ℚ)).isErr ∧ (SMA.new 255 254 (1 : ℚ)).noPanic := by
  constructor
  · exact (SMA.new_total 255 255 (by norm_num) 1).2 (Or.inr rfl)
  · exact (SMA.new_total 255 254 (by norm_num) 1).1

end Yata.C10

#print axioms Yata.C10.C10_constructors_total
#print axioms Yata.C10.C10_rejections
#print axioms Yata.C10.C10_two_parameter_constructors
#print axioms Yata.C10.C10_conv
#print axioms Yata.C10.C10_accepted_sma_never_panics
#print axioms Yata.C10.C10_indicators_never_panic
#print axioms Yata.C10.C10_indicator_validate_rejects
#print axioms Yata.C10.C10_every_ma_kind_never_panics
#print axioms Yata.C10.C10_configurable_indicators_never_panic
