/-
  Refinement of the concrete ring buffer to the abstract FIFO `toList` (oldest first); before it, the checked and
  saturating `PeriodType` operations (YataModel/Basic.lean) where they do not overflow.
-/
import YataModel.Window
namespace Yata

theorem satAdd_eq_min (P a b : Nat) : satAdd P a b = min (a + b) P := by
  unfold satAdd; split <;> omega

theorem chkAdd_ok {P a b : Nat} (h : a + b ≤ P) : chkAdd P a b = .ok (a + b) := if_pos h
theorem chkMul_ok {P a b : Nat} (h : a * b ≤ P) : chkMul P a b = .ok (a * b) := if_pos h
theorem chkSub_ok {a b : Nat} (h : b ≤ a) : chkSub a b = .ok (a - b) := if_pos h

theorem not_zero_or_max {P n : Nat} (hn0 : 0 < n) (hn : n ≤ P - 1) : ¬ (n = 0 ∨ n = P) := by omega

namespace Window
variable {α : Type} {P : Nat}

theorem Inv.index_lt {w : Window α} (h : Inv P w) (hpos : 0 < w.size) : w.index < w.size :=
  h.idx_lt.resolve_right fun h0 => Nat.ne_of_gt hpos h0.1

theorem Inv.toList_length {w : Window α} (h : Inv P w) : (toList w).length = w.size := by
  have := h.size_eq; have := h.idx_lt
  simp [toList]; omega

theorem new_ok {size : Nat} (v : α) (h : size ≤ P - 1) :
    ∃ w, new P size v = .ok w ∧ Inv P w ∧ toList w = List.replicate size v ∧ w.size = size := by
  refine ⟨{ buf := List.replicate size v, index := 0, size := size, s_1 := satSub size 1 },
    by simp [new, h], ⟨by simp, by simp [satSub], ?_, by simpa using h⟩, by simp [toList], rfl⟩
  simp; omega

theorem new_err {size : Nat} (v : α) (h : ¬ size ≤ P - 1) : new P size v = .error .assertFailed := by
  simp [new, h]

theorem empty_inv : Inv P (empty : Window α) := ⟨rfl, rfl, Or.inr ⟨rfl, rfl⟩, Nat.zero_le _⟩

theorem empty_toList : toList (empty : Window α) = [] := rfl

theorem fromParts_eq (slice : List α) (index : Nat) :
    fromParts P slice index =
      if slice.length < P ∧ (index < slice.length ∨ (slice = [] ∧ index = 0)) then
        .ok { buf := slice, index := index, size := slice.length, s_1 := satSub slice.length 1 }
      else .error .assertFailed := by
  simp only [fromParts, List.isEmpty_iff]
  by_cases h1 : slice.length < P
  · by_cases h2 : index < slice.length ∨ (slice = [] ∧ index = 0)
    · rw [if_neg (not_not_intro h1), if_neg (not_not_intro h2), if_pos ⟨h1, h2⟩]
    · rw [if_neg (not_not_intro h1), if_pos h2, if_neg fun h => h2 h.2]
  · rw [if_pos h1, if_neg fun h => h1 h.1]

theorem fromParts_ok (slice : List α) (index : Nat) (h1 : slice.length < P)
    (h2 : index < slice.length ∨ (slice = [] ∧ index = 0)) :
    ∃ w, fromParts P slice index = .ok w ∧ Inv P w ∧
      toList w = slice.drop index ++ slice.take index ∧ w.buf = slice ∧ w.index = index :=
  ⟨_, by rw [fromParts_eq, if_pos ⟨h1, h2⟩],
    ⟨rfl, rfl, h2.imp_right fun (h : slice = [] ∧ index = 0) => ⟨congrArg List.length h.1, h.2⟩, Nat.le_sub_one_of_lt h1⟩,
    rfl, rfl, rfl⟩

theorem fromParts_err (slice : List α) (index : Nat)
    (h : ¬ (slice.length < P ∧ (index < slice.length ∨ (slice = [] ∧ index = 0)))) :
    fromParts P slice index = .error .assertFailed := by
  rw [fromParts_eq, if_neg h]

/-- buffer position of the `j`-th oldest element; meant for `j ≤ size`, where `j = size` is
    the oldest again -/
def pos (w : Window α) (j : Nat) : Nat :=
  if w.index + j < w.size then w.index + j else w.index + j - w.size

theorem pos_lt {w : Window α} (h : Inv P w) {j : Nat} (hpos : 0 < w.size) (hj : j ≤ w.size) :
    pos w j < w.buf.length := by
  have := h.size_eq; have := h.index_lt hpos
  unfold pos; split <;> omega

theorem pos_zero {w : Window α} (h : Inv P w) : pos w 0 = w.index := by
  have := h.idx_lt
  unfold pos; split <;> omega

theorem pos_size (w : Window α) : pos w w.size = w.index := by
  unfold pos; split <;> omega

theorem pos_succ {w : Window α} (h : Inv P w) {j : Nat} (hj : j < w.size) :
    pos w (j + 1) = if pos w j = w.s_1 then 0 else pos w j + 1 := by
  have := h.s1_eq; have := h.index_lt (Nat.zero_lt_of_lt hj)
  unfold pos
  by_cases h1 : w.index + (j + 1) < w.size
  · rw [if_pos h1, if_pos (show w.index + j < w.size by omega), if_neg (by omega)]; rfl
  · by_cases h2 : w.index + j < w.size
    · rw [if_neg h1, if_pos h2, if_pos (by omega)]; omega
    · rw [if_neg h1, if_neg h2, if_neg (by omega)]; omega

/-- `pos_succ` in the branch-less form of `push` and `iter_rev`: the factor is `0` exactly at the wrap -/
theorem pos_succ_mul {w : Window α} (h : Inv P w) {j : Nat} (hj : j < w.size) :
    (if pos w j ≠ w.s_1 then 1 else 0) * (pos w j + 1) = pos w (j + 1) := by
  rw [pos_succ h hj]; split <;> simp [*]

theorem pos_pred {w : Window α} (h : Inv P w) {j : Nat} (hj : j < w.size) :
    pos w j = if pos w (j + 1) = 0 then w.s_1 else pos w (j + 1) - 1 := by
  rw [pos_succ h hj]; split <;> simp [*]

theorem pos_sub {w : Window α} (h : Inv P w) {j : Nat} (hj : j ≤ w.size) :
    pos w (w.size - j) = if j ≤ w.index then w.index - j else w.index + w.size - j := by
  have := h.idx_lt
  unfold pos
  by_cases hc : j ≤ w.index
  · rw [if_pos hc, if_neg (by omega)]; omega
  · rw [if_neg hc, if_pos (by omega)]; omega

theorem rot_set (l : List α) {i : Nat} (hi : i < l.length) (x : α) (i' : Nat)
    (hi' : i' = if i = l.length - 1 then 0 else i + 1) :
    ∃ t, l.drop i ++ l.take i = l[i] :: t ∧ (l.set i x).drop i' ++ (l.set i x).take i' = t ++ [x] := by
  refine ⟨l.drop (i + 1) ++ l.take i, by rw [List.drop_eq_getElem_cons hi]; rfl, ?_⟩
  -- after the last position the next one is `0`, which reads the same list as `length` would
  have e : (l.set i x).drop i' ++ (l.set i x).take i' = (l.set i x).drop (i + 1) ++ (l.set i x).take (i + 1) := by
    subst hi'
    split
    · rw [show i + 1 = l.length by omega, ← List.length_set (as := l) (i := i) (a := x), List.drop_length, List.take_length]
      exact List.append_nil _
    · rfl
  rw [e, List.drop_set_of_lt (Nat.lt_succ_self _), List.take_add_one, List.take_set_of_le (Nat.le_refl _),
    List.getElem?_set_self hi, Option.toList_some, List.append_assoc]

theorem push_cons {w : Window α} (x : α) (h : Inv P w) (hpos : 0 < w.size) :
    ∃ a t w', toList w = a :: t ∧ w.push x = .ok (a, w') ∧ Inv P w' ∧ w'.size = w.size ∧
      toList w' = t ++ [x] := by
  have hi : w.index < w.buf.length := h.size_eq ▸ h.index_lt hpos
  have hidx : (if w.index ≠ w.s_1 then 1 else 0) * (w.index + 1) = pos w 1 := by
    have := pos_succ_mul h hpos; rwa [pos_zero h] at this
  obtain ⟨t, ht, ht'⟩ := rot_set w.buf hi x (pos w 1) (by
    rw [pos_succ h hpos, pos_zero h, h.s1_eq, h.size_eq])
  refine ⟨w.buf[w.index], t, ⟨w.buf.set w.index x, pos w 1, w.size, w.s_1⟩, ht, ?_,
    ⟨by simp [h.size_eq], h.s1_eq, Or.inl (h.size_eq ▸ pos_lt h hpos hpos), h.size_le⟩, rfl, ht'⟩
  have hne : ¬ w.buf.isEmpty = true := fun he => by rw [List.isEmpty_iff.mp he] at hi; exact Nat.not_lt_zero _ hi
  simp only [push, if_neg hne, List.getElem?_eq_getElem hi, hidx]

theorem pushAll_spec {w : Window α} (h : Inv P w) (hpos : 0 < w.size) (xs : List α) :
    ∃ w', pushAll w xs = .ok ((toList w ++ xs).take xs.length, w') ∧ Inv P w' ∧ w'.size = w.size ∧
      toList w' = (toList w ++ xs).drop xs.length := by
  induction xs generalizing w with
  | nil => exact ⟨w, by simp [pushAll], h, rfl, by simp⟩
  | cons x xs ih =>
    obtain ⟨a, t, w1, hat, hp, hinv1, hsz1, ht1⟩ := push_cons x h hpos
    obtain ⟨w2, hp2, hinv2, hsz2, ht2⟩ := ih hinv1 (by omega)
    refine ⟨w2, ?_, hinv2, by omega, ?_⟩
    · simp only [pushAll, hp, hp2, ht1, hat]; simp
    · rw [ht2, ht1, hat]; simp

theorem toList_getElem? {w : Window α} (h : Inv P w) {j : Nat} (hj : j < w.size) :
    (toList w)[j]? = w.buf[pos w j]? := by
  have := h.size_eq; have := h.index_lt (Nat.zero_lt_of_lt hj)
  unfold toList pos
  split
  · rw [List.getElem?_append_left (by rw [List.length_drop]; omega), List.getElem?_drop]
  · rw [List.getElem?_append_right (by rw [List.length_drop]; omega), List.length_drop,
      List.getElem?_take_of_lt (by omega)]
    congr 1; omega

theorem oldest_spec {w : Window α} (h : Inv P w) (hpos : 0 < w.size) :
    ∃ v, oldest w = .ok v ∧ (toList w).head? = some v := by
  have hb := pos_lt h hpos (Nat.zero_le _)
  have hg := toList_getElem? h hpos
  rw [pos_zero h] at hb hg
  exact ⟨w.buf[w.index], by simp [oldest, List.getElem?_eq_getElem hb],
    by rw [List.head?_eq_getElem?, hg, List.getElem?_eq_getElem hb]⟩

theorem newest_index {w : Window α} (h : Inv P w) (hpos : 0 < w.size) :
    (checkedSub w.index 1).getD w.s_1 = pos w (w.size - 1) := by
  have hp := pos_pred h (show w.size - 1 < w.size by omega)
  rw [show w.size - 1 + 1 = w.size by omega, pos_size] at hp
  rw [hp, checkedSub]
  by_cases h0 : w.index = 0
  · rw [if_neg (by omega), if_pos h0]; rfl
  · rw [if_pos (by omega), if_neg h0]; rfl

theorem newest_spec {w : Window α} (h : Inv P w) (hpos : 0 < w.size) :
    ∃ v, newest w = .ok v ∧ (toList w).getLast? = some v := by
  have hj : w.size - 1 < w.size := by omega
  have hb := pos_lt h hpos (Nat.le_of_lt hj)
  refine ⟨w.buf[pos w (w.size - 1)], by simp [newest, newest_index h hpos, List.getElem?_eq_getElem hb], ?_⟩
  rw [List.getLast?_eq_getElem?, h.toList_length, toList_getElem? h hj, List.getElem?_eq_getElem hb]

theorem sliceIndex_spec {w : Window α} (h : Inv P w) (k : Nat) (hk : k < w.size) :
    sliceIndex P w k = .ok (some (pos w (w.size - 1 - k))) := by
  have hidx := h.index_lt (Nat.zero_lt_of_lt hk)
  obtain ⟨-, hs1, -, hle⟩ := h
  have h1 : k ≤ w.s_1 := by omega
  have h2 : w.index ≤ w.size := Nat.le_of_lt hidx
  have hj : w.s_1 - k = w.size - 1 - k := by rw [hs1]
  generalize w.size - 1 - k = j at hj
  simp only [sliceIndex, checkedSub, chkSub_ok h2, h1, ↓reduceIte, hj, pos]
  -- the saturating sum is below `size` exactly when there is no wrap
  by_cases hc : w.index + j < w.size
  · have hsat : satAdd P w.index j = w.index + j := by rw [satAdd_eq_min]; omega
    rw [hsat, if_neg (Nat.not_le.mpr hc), if_pos hc, Nat.zero_mul, Nat.zero_add, Nat.sub_zero, Nat.one_mul]
  · have hsat : satAdd P w.index j ≥ w.size := by rw [satAdd_eq_min]; omega
    rw [if_pos hsat, if_neg hc, Nat.one_mul, Nat.sub_self, Nat.zero_mul, Nat.add_zero, satSub]
    congr 2; omega

theorem sliceIndex_none {w : Window α} (h : Inv P w) (k : Nat) (hk : ¬ k < w.size) (hpos : 0 < w.size) :
    sliceIndex P w k = .ok none := by
  have : ¬ k ≤ w.s_1 := by have := h.s1_eq; omega
  simp [sliceIndex, checkedSub, this]

/-- stated through what the position reads: on the empty window `slice_index` may return a position, which then
    reads nothing -/
theorem sliceIndex_get {w : Window α} (h : Inv P w) (k : Nat) :
    ∃ o, sliceIndex P w k = .ok o ∧ o.bind (w.buf[·]?) = (toList w).reverse[k]? := by
  have hlen := h.toList_length
  by_cases hk : k < w.size
  · exact ⟨_, sliceIndex_spec h k hk,
      by rw [List.getElem?_reverse (by omega), hlen, toList_getElem? h (by omega)]; rfl⟩
  · rw [List.getElem?_eq_none (by simp; omega)]
    by_cases h0 : w.size = 0
    · have hb : w.buf = [] := List.eq_nil_of_length_eq_zero (h.size_eq ▸ h0)
      have hi : w.index ≤ w.size := by have := h.idx_lt; omega
      simp only [sliceIndex, chkSub_ok hi, hb]
      cases checkedSub w.s_1 k <;> exact ⟨_, rfl, by simp⟩
    · exact ⟨none, sliceIndex_none h k hk (Nat.pos_of_ne_zero h0), rfl⟩

theorem get_spec {w : Window α} (h : Inv P w) (k : Nat) :
    get P w k = .ok ((toList w).reverse[k]?) := by
  obtain ⟨o, ho, hv⟩ := sliceIndex_get h k
  rw [← hv, get, ho]
  cases o <;> rfl

theorem idx_spec {w : Window α} (h : Inv P w) (k : Nat) :
    idx P w k = match (toList w).reverse[k]? with
      | some v => .ok v
      | none => .error .indexOOB := by
  obtain ⟨o, ho, hv⟩ := sliceIndex_get h k
  rw [← hv, idx, ho]
  cases o with
  | none => rfl
  | some bi => dsimp only [Option.bind]; cases w.buf[bi]? <;> rfl

/-- cursor state of `iter()` after `j` successful `next` calls; `index` is one past (cyclically) the element it
    yields next -/
def IterInv (w : Window α) (it : Iter) (j : Nat) : Prop :=
  j ≤ w.size ∧ it.size = w.size - j ∧
    it.index = (if j ≤ w.index then w.index - j else w.index + w.size - j)

/-- cursor state of `iter_rev()` after `j` successful `next` calls; `index` is on the element it yields next -/
def IterRevInv (w : Window α) (it : Iter) (j : Nat) : Prop :=
  j ≤ w.size ∧ it.size = w.size - j ∧
    it.index = (if w.index + j < w.size then w.index + j else w.index + j - w.size)

theorem iterStart_inv (w : Window α) : IterInv w (iterStart w) 0 := by
  refine ⟨Nat.zero_le _, rfl, ?_⟩
  simp [iterStart]

theorem iterStart_revInv {w : Window α} (h : Inv P w) : IterRevInv w (iterStart w) 0 :=
  ⟨Nat.zero_le _, rfl, (pos_zero h).symm⟩

theorem iterNext_done {w : Window α} {it : Iter} {j : Nat} (hit : IterInv w it j) (hj : w.size ≤ j) :
    iterNext w it = .ok none := by
  have : it.size = 0 := by have := hit.2.1; omega
  simp [iterNext, this]

theorem iterRevNext_done {w : Window α} {it : Iter} {j : Nat} (hit : IterRevInv w it j) (hj : w.size ≤ j) :
    iterRevNext w it = .ok none := by
  have : it.size = 0 := by have := hit.2.1; omega
  simp [iterRevNext, this]

theorem IterInv.index_eq {w : Window α} {it : Iter} {j : Nat} (h : Inv P w) (hit : IterInv w it j) :
    it.index = pos w (w.size - j) := by
  rw [pos_sub h hit.1]; exact hit.2.2

theorem IterRevInv.index_eq {w : Window α} {it : Iter} {j : Nat} (hit : IterRevInv w it j) :
    it.index = pos w j := hit.2.2

theorem IterInv.next_index {w : Window α} {it : Iter} {j : Nat} (h : Inv P w) (hit : IterInv w it j)
    (hj : j < w.size) :
    satSub it.index 1 + (if it.index = 0 then 1 else 0) * w.s_1 = pos w (w.size - (j + 1)) := by
  rw [pos_pred h (show w.size - (j + 1) < w.size by omega), show w.size - (j + 1) + 1 = w.size - j by omega,
    ← hit.index_eq h]
  unfold satSub; split <;> simp [*]

theorem iterNext_spec {w : Window α} {it : Iter} {j : Nat} (h : Inv P w) (hit : IterInv w it j)
    (hj : j < w.size) :
    ∃ v it', iterNext w it = .ok (some (v, it')) ∧ (toList w).reverse[j]? = some v ∧
      IterInv w it' (j + 1) := by
  have hm : w.size - (j + 1) < w.size := by omega
  have hb := pos_lt h (by omega) (Nat.le_of_lt hm)
  have hsz := hit.2.1
  have hnz : ¬ it.size = 0 := by omega
  refine ⟨w.buf[pos w (w.size - (j + 1))], ⟨pos w (w.size - (j + 1)), it.size - 1⟩, ?_, ?_, ⟨hj, ?_, pos_sub h hj⟩⟩
  · simp only [iterNext, hnz, ↓reduceIte, hit.next_index h hj, List.getElem?_eq_getElem hb]
  · rw [List.getElem?_reverse (by rw [h.toList_length]; exact hj), h.toList_length, Nat.sub_sub, Nat.add_comm 1,
      toList_getElem? h hm, List.getElem?_eq_getElem hb]
  · show it.size - 1 = w.size - (j + 1); omega

theorem iterRevNext_spec {w : Window α} {it : Iter} {j : Nat} (h : Inv P w) (hit : IterRevInv w it j)
    (hj : j < w.size) :
    ∃ v it', iterRevNext w it = .ok (some (v, it')) ∧ (toList w)[j]? = some v ∧
      IterRevInv w it' (j + 1) := by
  have hb := pos_lt h (by omega) (Nat.le_of_lt hj)
  have hsz := hit.2.1
  have hnz : ¬ it.size = 0 := by omega
  refine ⟨w.buf[pos w j], ⟨pos w (j + 1), it.size - 1⟩, ?_,
    by rw [toList_getElem? h hj, List.getElem?_eq_getElem hb], ⟨hj, ?_, rfl⟩⟩
  · simp only [iterRevNext, hnz, ↓reduceIte, hit.index_eq, Nat.mul_comm (pos w j + 1), pos_succ_mul h hj,
      List.getElem?_eq_getElem hb]
  · show it.size - 1 = w.size - (j + 1); omega

theorem iterCollect_spec {w : Window α} (h : Inv P w) :
    ∀ (fuel : Nat) (it : Iter) (j : Nat), IterInv w it j → w.size - j ≤ fuel →
      iterCollect w fuel it = .ok ((toList w).reverse.drop j) := by
  have hlen : (toList w).reverse.length = w.size := by rw [List.length_reverse, h.toList_length]
  intro fuel
  induction fuel with
  | zero => intro it j _ hf; rw [List.drop_of_length_le (by omega)]; rfl
  | succ f ih =>
    intro it j hit hf
    by_cases hj : j < w.size
    · obtain ⟨v, it', hn, hv, hit'⟩ := iterNext_spec h hit hj
      simp only [iterCollect, hn, ih it' (j + 1) hit' (by omega)]
      rw [List.drop_eq_getElem?_toList_append (i := j), hv]; rfl
    · rw [List.drop_of_length_le (by omega)]
      simp only [iterCollect, iterNext_done hit (by omega)]

theorem iterCollect_start {w : Window α} (h : Inv P w) :
    iterCollect w (w.size + 1) (iterStart w) = .ok (toList w).reverse :=
  iterCollect_spec h (w.size + 1) (iterStart w) 0 (iterStart_inv w) (by omega)

theorem iterRevCollect_spec {w : Window α} (h : Inv P w) :
    ∀ (fuel : Nat) (it : Iter) (j : Nat), IterRevInv w it j → w.size - j ≤ fuel →
      iterRevCollect w fuel it = .ok ((toList w).drop j) := by
  have hlen := h.toList_length
  intro fuel
  induction fuel with
  | zero => intro it j _ hf; rw [List.drop_of_length_le (by omega)]; rfl
  | succ f ih =>
    intro it j hit hf
    by_cases hj : j < w.size
    · obtain ⟨v, it', hn, hv, hit'⟩ := iterRevNext_spec h hit hj
      simp only [iterRevCollect, hn, ih it' (j + 1) hit' (by omega)]
      rw [List.drop_eq_getElem?_toList_append (i := j), hv]; rfl
    · rw [List.drop_of_length_le (by omega)]
      simp only [iterRevCollect, iterRevNext_done hit (by omega)]

theorem iterRevCollect_start {w : Window α} (h : Inv P w) :
    iterRevCollect w (w.size + 1) (iterStart w) = .ok (toList w) :=
  iterRevCollect_spec h (w.size + 1) (iterStart w) 0 (iterStart_revInv h) (by omega)

theorem iterAdvance_spec {w : Window α} (h : Inv P w) :
    ∀ (j : Nat) (it : Iter) (c : Nat), IterInv w it c →
      ∃ it', iterAdvance w j it = .ok it' ∧ IterInv w it' (min (c + j) w.size) := by
  intro j
  induction j with
  | zero => intro it c hit; exact ⟨it, rfl, by rw [Nat.add_zero, Nat.min_eq_left hit.1]; exact hit⟩
  | succ j ih =>
    intro it c hit
    by_cases hc : c < w.size
    · obtain ⟨v, it', hn, _, hit'⟩ := iterNext_spec h hit hc
      obtain ⟨it'', ha, hi''⟩ := ih it' (c + 1) hit'
      exact ⟨it'', by simp only [iterAdvance, hn, ha], by rwa [Nat.add_right_comm, Nat.add_assoc] at hi''⟩
    · have hce : c = w.size := Nat.le_antisymm hit.1 (Nat.le_of_not_lt hc)
      exact ⟨it, by simp only [iterAdvance, iterNext_done hit (Nat.le_of_not_lt hc)],
        by rw [Nat.min_eq_right (by omega), ← hce]; exact hit⟩

theorem iterRevAdvance_spec {w : Window α} (h : Inv P w) :
    ∀ (j : Nat) (it : Iter) (c : Nat), IterRevInv w it c →
      ∃ it', iterRevAdvance w j it = .ok it' ∧ IterRevInv w it' (min (c + j) w.size) := by
  intro j
  induction j with
  | zero => intro it c hit; exact ⟨it, rfl, by rw [Nat.add_zero, Nat.min_eq_left hit.1]; exact hit⟩
  | succ j ih =>
    intro it c hit
    by_cases hc : c < w.size
    · obtain ⟨v, it', hn, _, hit'⟩ := iterRevNext_spec h hit hc
      obtain ⟨it'', ha, hi''⟩ := ih it' (c + 1) hit'
      exact ⟨it'', by simp only [iterRevAdvance, hn, ha], by rwa [Nat.add_right_comm, Nat.add_assoc] at hi''⟩
    · have hce : c = w.size := Nat.le_antisymm hit.1 (Nat.le_of_not_lt hc)
      exact ⟨it, by simp only [iterRevAdvance, iterRevNext_done hit (Nat.le_of_not_lt hc)],
        by rw [Nat.min_eq_right (by omega), ← hce]; exact hit⟩

theorem iterLast_spec {w : Window α} {it : Iter} {j : Nat} (h : Inv P w) (hit : IterInv w it j) :
    iterLast w it = .ok (((toList w).reverse.drop j).getLast?) := by
  have hsz := hit.2.1
  rw [List.getLast?_drop, List.length_reverse, h.toList_length, List.getLast?_reverse, iterLast]
  by_cases hj : j < w.size
  · obtain ⟨v, ho, hh⟩ := oldest_spec h (by omega)
    rw [if_neg (by omega), if_neg (by omega), ho, hh]; rfl
  · rw [if_pos (by omega), if_pos (by omega)]

theorem iterRevLast_spec {w : Window α} {it : Iter} {j : Nat} (h : Inv P w) (hit : IterRevInv w it j) :
    iterRevLast w it = .ok (((toList w).drop j).getLast?) := by
  have hsz := hit.2.1
  rw [List.getLast?_drop, h.toList_length, iterRevLast]
  by_cases hj : j < w.size
  · obtain ⟨v, ho, hh⟩ := newest_spec h (by omega)
    rw [if_neg (by omega), if_neg (by omega), ho, hh]; rfl
  · rw [if_pos (by omega), if_pos (by omega)]

theorem deserialize_eq (buf : List α) (index : Nat) :
    deserialize P (buf, index) =
      if buf.length > P - 1 then .error .tooLong
      else if buf.length ≤ index ∧ ¬ (buf = [] ∧ index = 0) then .error .indexOut
      else .ok (fromParts P buf index) := by
  simp only [deserialize, List.isEmpty_iff]

theorem fromParts_asSlice {w : Window α} (h : Inv P w) (hP : 1 ≤ P) :
    fromParts P (asSlice w) w.index = .ok w := by
  obtain ⟨hs, hs1, hi, hle⟩ := h
  rw [fromParts_eq, if_pos ⟨by rw [asSlice, ← hs]; omega,
    hi.imp (hs ▸ ·) fun h0 => ⟨List.eq_nil_of_length_eq_zero (hs ▸ h0.1), h0.2⟩⟩]
  cases w
  simp only [asSlice] at hs hs1 ⊢
  rw [← hs, hs1]; rfl

theorem deserialize_serialize {w : Window α} (h : Inv P w) (hP : 1 ≤ P) :
    deserialize P (serialize w) = .ok (.ok w) := by
  have hlen : ¬ w.buf.length > P - 1 := by have := h.size_eq; have := h.size_le; omega
  have hidx : ¬ (w.buf.length ≤ w.index ∧ ¬ (w.buf = [] ∧ w.index = 0)) := fun ⟨h1, h2⟩ =>
    h2 (h.idx_lt.elim (fun hlt => by have := h.size_eq; omega)
      fun h0 => ⟨List.eq_nil_of_length_eq_zero (h.size_eq ▸ h0.1), h0.2⟩)
  rw [serialize, deserialize_eq, if_neg hlen, if_neg hidx]
  exact congrArg _ (fromParts_asSlice h hP)

theorem deserialize_accepts (buf : List α) (index : Nat) (hP : 1 ≤ P) :
    (∃ w, deserialize P (buf, index) = .ok (.ok w) ∧ Inv P w ∧
        toList w = buf.drop index ++ buf.take index) ∨
    ((∃ e, deserialize P (buf, index) = .error e) ∧
        (buf.length > P - 1 ∨ (buf.length ≤ index ∧ ¬ (buf = [] ∧ index = 0)))) := by
  rw [deserialize_eq]
  by_cases h1 : buf.length > P - 1
  · exact Or.inr ⟨⟨.tooLong, if_pos h1⟩, Or.inl h1⟩
  by_cases h3 : buf.length ≤ index ∧ ¬ (buf = [] ∧ index = 0)
  · exact Or.inr ⟨⟨.indexOut, by rw [if_neg h1, if_pos h3]⟩, Or.inr h3⟩
  · obtain ⟨w, hw, hinv, htl, _, _⟩ := fromParts_ok (P := P) buf index (by omega)
      ((Classical.not_and_iff_not_or_not.mp h3).imp Nat.lt_of_not_le Classical.not_not.mp)
    exact Or.inl ⟨w, by rw [if_neg h1, if_neg h3, hw], hinv, htl⟩
end Window
end Yata
