/-
  `peek` after a `next` returns what that `next` returned, for the `Peekable` methods listed here (not all of them).
-/
import YataProofs.Selection
set_option linter.unusedSectionVars false
namespace Yata
variable {α : Type}
variable [Zero α] [One α] [Add α] [Sub α] [Mul α] [Div α] [Neg α] [NatCast α]
variable [LT α] [DecidableLT α] [LE α] [DecidableLE α]

theorem SMA.peek_next (s : SMA α) (x : α) {o : α} {s' : SMA α} (h : s.next x = .ok (o, s')) : s'.peek = o := by
  unfold SMA.next at h
  split at h
  · cases h
  · cases h; rfl

theorem WMA.peek_next (s : WMA α) (x : α) {o : α} {s' : WMA α} (h : s.next x = .ok (o, s')) : s'.peek = o := by
  unfold WMA.next at h
  split at h
  · cases h
  · cases h; rfl

theorem EMA.peek_next (s : EMA α) (x : α) : (s.next x).2.peek = (s.next x).1 := rfl
theorem DMA.peek_next (s : DMA α) (x : α) : (s.next x).2.peek = (s.next x).1 := rfl
theorem TMA.peek_next (s : TMA α) (x : α) : (s.next x).2.peek = (s.next x).1 := rfl
theorem DEMA.peek_next (s : DEMA α) (x : α) : (s.next x).2.peek = (s.next x).1 := rfl
theorem TEMA.peek_next (s : TEMA α) (x : α) : (s.next x).2.peek = (s.next x).1 := rfl
theorem RMA.peek_next (s : RMA α) (x : α) : (s.next x).2.peek = (s.next x).1 := rfl
theorem WSMA.peek_next (s : WSMA α) (x : α) : (s.next x).2.peek = (s.next x).1 := rfl
theorem TSI.peek_next (s : TSI α) (x : α) : (s.next x).2.peek = (s.next x).1 := rfl

theorem TRIMA.peek_next (s : TRIMA α) (x : α) {o : α} {s' : TRIMA α} (h : s.next x = .ok (o, s')) : s'.peek = o := by
  unfold TRIMA.next at h
  split at h
  · cases h
  · split at h
    · cases h
    · rename_i v2 b hb
      cases h
      exact SMA.peek_next _ _ hb

theorem HMA.peek_next (s : HMA α) (x : α) {o : α} {s' : HMA α} (h : s.next x = .ok (o, s')) : s'.peek = o := by
  unfold HMA.next at h
  split at h
  · cases h
  · split at h
    · cases h
    · split at h
      · cases h
      · rename_i v c hc
        cases h
        exact WMA.peek_next _ _ hc

theorem LinReg.peek_next (s : LinReg α) (x : α) {o : α} {s' : LinReg α} (h : s.next x = .ok (o, s')) : s'.peek = o := by
  unfold LinReg.next at h
  split at h
  · cases h
  · cases h; rfl

theorem Integral.peek_next (s : Integral α) (x : α) {o : α} {s' : Integral α} (h : s.next x = .ok (o, s')) : s'.peek = o := by
  unfold Integral.next at h
  split at h
  · split at h
    · cases h
    · cases h; rfl
  · cases h; rfl

theorem LinearVolatility.peek_next (s : LinearVolatility α) (x : α) {o : α} {s' : LinearVolatility α}
    (h : s.next x = .ok (o, s')) : s'.peek = o := by
  unfold LinearVolatility.next at h
  dsimp only at h
  split at h
  · cases h
  · cases h; rfl

theorem MeanAbsDev.peek_next (s : MeanAbsDev α) (x : α) {o : α} {s' : MeanAbsDev α}
    (h : s.next x = .ok (o, s')) : s'.peek = o := by
  unfold MeanAbsDev.next at h
  split at h
  · cases h
  · cases h; rfl

theorem StDev.peek_next (s : StDev α) (x : α) {o : α} {s' : StDev α} (h : s.next x = .ok (o, s')) : s'.peekVar = o := by
  unfold StDev.next at h
  split at h
  · cases h
  · cases h; rfl

theorem Vidya.peek_next [DecidableEq α] (s : Vidya α) (x : α) {o : α} {s' : Vidya α}
    (h : s.next x = .ok (o, s')) : s'.peek = o := by
  unfold Vidya.next at h
  dsimp only at h
  split at h
  · cases h
  · cases h; rfl

/-- only with a right window (length ≥ 2): at length 1 `next` returns `value` and `peek` computes `value * (1 / 1)`,
    the same only under the laws of a field -/
theorem SWMA.peek_next (s : SWMA α) (x : α) {o : α} {s' : SWMA α} (h : s.next x = .ok (o, s'))
    (hne : s.right_window.isEmpty = false) : s'.peek = o := by
  unfold SWMA.next at h
  simp only [hne, Bool.false_eq_true, ↓reduceIte] at h
  split at h
  · cases h
  · split at h
    · cases h
    · cases h; rfl

section Sel
variable {β : Type} [LT β] [DecidableLT β] [LE β] [DecidableLE β] [BitEq β]

theorem Highest.peek_next (s : Highest β) (x : β) {o : β} {s' : Highest β} (h : s.next x = .ok (o, s')) : s'.peek = o := by
  unfold Highest.next at h
  split at h
  · cases h
  · split at h
    · cases h; rfl
    · split at h
      · split at h
        · cases h
        · cases h; rfl
      · cases h; rfl

theorem Lowest.peek_next (s : Lowest β) (x : β) {o : β} {s' : Lowest β} (h : s.next x = .ok (o, s')) : s'.peek = o := by
  rw [Lowest.next_eq_dual] at h
  cases hn : s.toHighest.next x with
  | error e => rw [hn] at h; cases h
  | ok p =>
    rw [hn] at h; cases h
    exact Highest.peek_next (β := βᵒᵈ) _ x hn

end Sel
end Yata
