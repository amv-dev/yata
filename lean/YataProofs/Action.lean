/-
  Action algebra (src/core/action.rs) through the signed strength `sv : Action → ℤ`, of which the ratio is the 255th part:
  `neg`, `sub`, `analog`, `eq` and the order of ratios become facts about integers between −255 and 255. Both conversions
  from floats (the bit-level `F64.toAction` and its rational model `ofRatWith`) build `signed sign strength`.
-/
import YataModel.F64
import YataProofs.Scalar
import YataProofs.Window
import Mathlib.Data.Rat.Floor
namespace Yata

namespace Action

theorem neg_wf {a : Action} (h : a.WF) : a.neg.WF := by cases a <;> exact h

theorem ratio_neg (a : Action) : a.neg.ratio = a.ratio.map (fun q => -q) := by
  cases a <;> simp [ratio, neg, neg_div]

def clamp (q : ℚ) : ℚ := max (-1) (min 1 q)

/-- signed strength: the integer of which `ratio0` is the 255th part -/
def sv : Action → ℤ
  | buy v => v
  | none => 0
  | sell v => -v

theorem ratio0_eq (a : Action) : a.ratio0 = (a.sv : ℚ) / 255 := by
  cases a <;> simp [ratio0, ratio, sv]

theorem sv_neg (a : Action) : a.neg.sv = -a.sv := by cases a <;> simp [neg, sv]

theorem wf_iff_sv {a : Action} : a.WF ↔ -255 ≤ a.sv ∧ a.sv ≤ 255 := by
  cases a <;> simp only [WF, BOUND, sv, true_iff] <;> omega

theorem sv_sub {a b : Action} (ha : a.WF) (hb : b.WF) :
    (a.sub b).sv = max (-255) (min 255 (a.sv - b.sv)) := by
  rw [wf_iff_sv] at ha hb
  cases a <;> cases b <;> simp only [sub, neg, satAdd_eq_min, BOUND]
  any_goals split  -- like signs: the larger strength decides the side of the result
  all_goals simp only [sv] at ha hb ⊢; omega

theorem clamp_div (z : ℤ) : clamp ((z : ℚ) / 255) = ((max (-255) (min 255 z) : ℤ) : ℚ) / 255 := by
  have hm : Monotone fun z : ℤ => (z : ℚ) / 255 :=
    fun _ _ h => div_le_div_of_nonneg_right (Int.cast_le.2 h) (by norm_num)
  have e1 : (-1 : ℚ) = ((-255 : ℤ) : ℚ) / 255 := by norm_num
  have e2 : (1 : ℚ) = ((255 : ℤ) : ℚ) / 255 := by norm_num
  rw [clamp, e1, e2, hm.map_max, hm.map_min]

theorem analog_eq_sign_sv (a : Action) : a.analog = a.sv.sign := by
  cases a with
  | none => rfl
  | buy v => cases v <;> rfl
  | sell v => cases v <;> rfl

theorem ratio0_inj {a b : Action} : a.ratio0 = b.ratio0 ↔ a.sv = b.sv := by
  rw [ratio0_eq, ratio0_eq, div_left_inj' (by norm_num), Int.cast_inj]

theorem ratio0_le_iff {a b : Action} : a.ratio0 ≤ b.ratio0 ↔ a.sv ≤ b.sv := by
  rw [ratio0_eq, ratio0_eq, div_le_div_iff_of_pos_right (by norm_num), Int.cast_le]

theorem eq_strength (x y : ℕ) :
    (buy x).eq (buy y) = (x == y) ∧ (sell x).eq (sell y) = (x == y) ∧
    (buy x).eq (sell y) = (x == 0 && y == 0) ∧ (sell x).eq (buy y) = (x == 0 && y == 0) := by
  cases x <;> cases y <;> exact ⟨rfl, rfl, rfl, rfl⟩

theorem eq_none (x : ℕ) :
    (buy x).eq none = false ∧ (sell x).eq none = false ∧ none.eq (buy x) = false ∧ none.eq (sell x) = false := by
  cases x <;> exact ⟨rfl, rfl, rfl, rfl⟩

/-- both conjuncts compare something read off each argument alone, which is why `eq` is an equivalence relation -/
theorem eq_iff (a b : Action) : a.eq b = true ↔ (a = .none ↔ b = .none) ∧ a.ratio0 = b.ratio0 := by
  rw [ratio0_inj]
  rcases a with x | _ | x <;> rcases b with y | _ | y <;> simp [eq_strength, eq_none, sv]
  exact (rfl : none.eq none = true)

theorem cmp_eq_iff (a b : Action) : a.cmp b = .eq ↔ a = b := by
  cases a <;> cases b <;> simp [cmp]

/-- what both float conversions build: a strength on the side given by the sign bit -/
def signed (neg : Bool) (v : ℕ) : Action := if neg then sell v else buy v

/-- the `== 255` branches of the conversions only pick the named constant for the same value -/
theorem ite_buyAll (v : ℕ) : (if v = 255 then buyAll else buy v) = buy v := ite_eq_right_iff.2 fun h => h ▸ rfl

theorem ite_sellAll (v : ℕ) : (if v = 255 then sellAll else sell v) = sell v := ite_eq_right_iff.2 fun h => h ▸ rfl

theorem sv_signed (s : Bool) (v : ℕ) : (signed s v).sv = if s then -(v : ℤ) else v := by
  cases s <;> rfl

theorem signed_le {s1 s2 : Bool} {v1 v2 : ℕ}
    (h : match s1, s2 with
      | true, false => True
      | false, false => v1 ≤ v2
      | true, true => v2 ≤ v1
      | false, true => v1 = 0 ∧ v2 = 0) :
    (signed s1 v1).ratio0 ≤ (signed s2 v2).ratio0 := by
  rw [ratio0_le_iff, sv_signed, sv_signed]
  cases s1 <;> cases s2 <;> simp only [Bool.false_eq_true, if_false, if_true] at h ⊢ <;> omega

theorem ofRatWith_eq (rne : ℚ → ℚ) (neg : Bool) (q : ℚ) :
    ofRatWith rne neg q = signed neg (roundHalfAway (rne (|clamp q| * 255))) := by
  have hc : (if q < -1 then -1 else if q > 1 then 1 else q) = clamp q :=
    (ite_clamp_eq (by norm_num) q).trans (by rw [clamp, min_comm])
  have ha : ∀ c : ℚ, (if c < 0 then -c else c) = |c| := sabs_eq_abs
  simp only [ofRatWith, BOUND, hc, ha, ite_buyAll, ite_sellAll, signed]

theorem roundHalfAway_mono {a b : ℚ} (h : a ≤ b) : roundHalfAway a ≤ roundHalfAway b :=
  Int.toNat_le_toNat (Rat.floor_monotone (add_le_add_left h _))

theorem clamp_mono {a b : ℚ} (h : a ≤ b) : clamp a ≤ clamp b := max_le_max_left _ (min_le_min_left _ h)

theorem clamp_neg_iff {q : ℚ} : clamp q < 0 ↔ q < 0 := by
  rw [clamp, max_lt_iff, min_lt_iff, or_iff_right (by norm_num), and_iff_right (by norm_num)]

end Action

namespace F64

theorem strength_le (e m : Nat) : strength e m ≤ 255 := by
  unfold strength
  split
  · exact Nat.le_refl _
  · split
    · omega
    · exact Nat.min_le_left _ _

theorem toAction_eq {b : Nat} (h : isNaN b = false) :
    toAction b = Action.signed (sign b) (strength (expo b) (mant b)) := by
  simp only [toAction, h, Bool.false_eq_true, if_false, Action.ite_buyAll, Action.ite_sellAll, Action.signed]

theorem toAction_nan {b : Nat} (h : isNaN b = true) : toAction b = .none := by simp [toAction, h]

/-- `Action::from(a.ratio())` is `a` again, through the division `k/255.0` and the product `·255.0`, both with IEEE rounding -/
theorem from_ratio_bits : ∀ k, k ≤ 255 →
    toAction (ratioMagBits k) = .buy k ∧ toAction (2 ^ 63 + ratioMagBits k) = .sell k := by decide +kernel

end F64
end Yata
