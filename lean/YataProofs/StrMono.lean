/-
  `Action::from(f64)` is monotone on the bit level: `strength` (|x|·255 rounded to binary64, then rounded half away from
  zero) never decreases when the magnitude (exponent field, mantissa field — lexicographic, i.e. the bit pattern without
  its sign) increases.
-/
import YataProofs.Action

namespace Yata.F64

theorem shrRne_multiple (c k : Nat) : shrRne (c * 2 ^ k) k = c := by
  unfold shrRne
  by_cases hk : k = 0
  · simp [hk]
  · simp only [hk, if_false, Nat.mul_div_cancel _ (Nat.two_pow_pos k), Nat.mul_mod_left]
    rw [if_neg (Nat.not_lt_zero _), if_pos (Nat.two_pow_pos _)]

/-- what round-to-nearest-even adds to the quotient `q` at remainder `r`, `h` being half the divisor -/
def bump (q h r : Nat) : Nat := if r > h then 1 else if r < h then 0 else if q % 2 = 0 then 0 else 1

theorem bump_mono (q h : Nat) {r r' : Nat} (hr : r ≤ r') : bump q h r ≤ bump q h r' := by
  unfold bump
  rcases Nat.lt_trichotomy r h with h1 | h1 | h1
  · rw [if_neg (by omega), if_pos h1]; exact Nat.zero_le _
  · subst h1
    rcases hr.lt_or_eq with h2 | h2
    · rw [if_pos h2]; split_ifs <;> omega
    · rw [← h2]
  · rw [if_pos h1, if_pos (by omega)]

theorem shrRne_eq (x k : Nat) (hk : k ≠ 0) : shrRne x k = x / 2 ^ k + bump (x / 2 ^ k) (2 ^ (k - 1)) (x % 2 ^ k) := by
  unfold shrRne bump
  simp only [hk, if_false]
  split_ifs <;> rfl

theorem bump_le_one (q h r : Nat) : bump q h r ≤ 1 := by
  unfold bump; split_ifs <;> omega

theorem shrRne_bounds (x k : Nat) : x / 2 ^ k ≤ shrRne x k ∧ shrRne x k ≤ x / 2 ^ k + 1 := by
  by_cases hk : k = 0
  · simp [shrRne, hk]
  · rw [shrRne_eq x k hk]
    exact ⟨Nat.le_add_right _ _, Nat.add_le_add_left (bump_le_one _ _ _) _⟩

theorem shrRne_mono (x y k : Nat) (h : x ≤ y) : shrRne x k ≤ shrRne y k := by
  by_cases hk : k = 0
  · simp [shrRne, hk, h]
  -- a smaller quotient decides by itself (the bump is at most 1); with equal quotients the remainders are ordered
  rcases (Nat.div_le_div_right h : x / 2 ^ k ≤ y / 2 ^ k).lt_or_eq with hlt | heq
  · exact (shrRne_bounds x k).2.trans (hlt.trans_le (shrRne_bounds y k).1)
  · have hr : x % 2 ^ k ≤ y % 2 ^ k := by
      have hx := Nat.div_add_mod x (2 ^ k)
      have hy := Nat.div_add_mod y (2 ^ k)
      rw [heq] at hx
      omega
    rw [shrRne_eq x k hk, shrRne_eq y k hk, heq]
    exact Nat.add_le_add_left (bump_mono _ _ hr) _

/-- `M' · 2^sh` of `strength` (YataModel/F64.lean): the exact product `p = 255·M`, a number of 60 or 61 bits, rounded to 53
    significant bits by dropping `sh` = 7 or 8 of them, and brought back to the unit of `p` -/
def round53 (p : Nat) : Nat := shrRne p (if p < 2 ^ 60 then 7 else 8) * 2 ^ (if p < 2 ^ 60 then 7 else 8)

theorem round53_mono (p q : Nat) (h : p ≤ q) : round53 p ≤ round53 q := by
  unfold round53
  by_cases hp : p < 2 ^ 60
  · by_cases hq : q < 2 ^ 60
    · simp only [hp, hq, if_true]
      exact Nat.mul_le_mul_right _ (shrRne_mono p q 7 h)
    · simp only [hp, hq, if_true, if_false]
      -- across the change of unit: `round53 p ≤ 2^60 ≤ round53 q`
      have a : shrRne p 7 ≤ 2 ^ 53 := by
        have := shrRne_mono p (2 ^ 53 * 2 ^ 7) 7 (by omega)
        rwa [shrRne_multiple] at this
      have b : 2 ^ 52 ≤ shrRne q 8 := by
        have := shrRne_mono (2 ^ 52 * 2 ^ 8) q 8 (by omega)
        rwa [shrRne_multiple] at this
      omega
  · have hq : ¬ q < 2 ^ 60 := by omega
    simp only [hp, hq, if_false]
    exact Nat.mul_le_mul_right _ (shrRne_mono p q 8 h)

theorem round53_multiple (c : Nat) : round53 (c * 2 ^ 8) = c * 2 ^ 8 := by
  unfold round53
  split
  · rw [show c * 2 ^ 8 = (c * 2) * 2 ^ 7 by omega, shrRne_multiple]
  · rw [shrRne_multiple]

theorem round_scale (a k j : Nat) (hk : 1 ≤ k) :
    (a + 2 ^ (k - 1)) / 2 ^ k = (a * 2 ^ j + 2 ^ (k + j - 1)) / 2 ^ (k + j) := by
  have : k + j - 1 = (k - 1) + j := by omega
  rw [this, pow_add, pow_add, ← Nat.add_mul, Nat.mul_div_mul_right _ _ (Nat.two_pow_pos j)]

/-- the exponents of the middle range brought to one unit, 2^-75, so that `strength_mono` can compare across them -/
theorem strength_eq (e m : Nat) (h1 : 1000 ≤ e) (h2 : e < 1023) :
    strength e m = min 255 ((round53 (255 * (2 ^ 52 + m)) * 2 ^ (e - 1000) + 2 ^ 74) / 2 ^ 75) := by
  unfold strength round53
  rw [if_neg (by omega), if_neg (by omega)]
  dsimp only
  -- whichever shift `sh` the rounding used, the exponents add up: (1075 − e − sh) + sh + (e − 1000) = 75
  have hsh : (if 255 * (2 ^ 52 + m) < 2 ^ 60 then 7 else 8) ≤ 8 := by split <;> omega
  generalize (if 255 * (2 ^ 52 + m) < 2 ^ 60 then 7 else 8) = sh at hsh
  rw [round_scale _ _ (sh + (e - 1000)) (by omega), show 1075 - e - sh + (sh + (e - 1000)) = 75 by omega,
    pow_add, Nat.mul_assoc]

theorem strength_mono (e1 m1 e2 m2 : Nat) (hm1 : m1 < 2 ^ 52)
    (h : e1 < e2 ∨ (e1 = e2 ∧ m1 ≤ m2)) : strength e1 m1 ≤ strength e2 m2 := by
  by_cases t2 : 1023 ≤ e2
  · have : strength e2 m2 = 255 := by unfold strength; rw [if_pos t2]
    rw [this]; exact strength_le _ _
  by_cases b1 : e1 < 1000
  · have : strength e1 m1 = 0 := by unfold strength; rw [if_neg (by omega), if_pos b1]
    rw [this]; exact Nat.zero_le _
  have he1 : 1000 ≤ e1 ∧ e1 < 1023 := by omega
  have he2 : 1000 ≤ e2 ∧ e2 < 1023 := by omega
  rw [strength_eq e1 m1 he1.1 he1.2, strength_eq e2 m2 he2.1 he2.2]
  apply min_le_min_left
  apply Nat.div_le_div_right
  apply Nat.add_le_add_right
  rcases h with hlt | ⟨heq, hle⟩
  · -- a step of the exponent doubles the unit, and `round53` only ranges over [255·2^52, 255·2^53]
    have a : round53 (255 * (2 ^ 52 + m1)) ≤ (255 * 2 ^ 45) * 2 ^ 8 :=
      (round53_mono _ _ (by omega)).trans_eq (round53_multiple _)
    have b : (255 * 2 ^ 44) * 2 ^ 8 ≤ round53 (255 * (2 ^ 52 + m2)) :=
      (round53_multiple _).symm.trans_le (round53_mono _ _ (by omega))
    calc round53 (255 * (2 ^ 52 + m1)) * 2 ^ (e1 - 1000)
        ≤ (255 * 2 ^ 45 * 2 ^ 8) * 2 ^ (e1 - 1000) := Nat.mul_le_mul_right _ a
      _ = (255 * 2 ^ 44 * 2 ^ 8) * 2 ^ (e1 - 1000 + 1) := by rw [pow_succ]; ring
      _ ≤ (255 * 2 ^ 44 * 2 ^ 8) * 2 ^ (e2 - 1000) :=
          Nat.mul_le_mul_left _ (Nat.pow_le_pow_right (by norm_num) (by omega))
      _ ≤ round53 (255 * (2 ^ 52 + m2)) * 2 ^ (e2 - 1000) := Nat.mul_le_mul_right _ b
  · subst heq
    exact Nat.mul_le_mul_right _ (round53_mono _ _ (by omega))

/-- magnitude bits (everything but the sign): for non-NaN patterns their order is the order of |x| -/
def mag (b : Nat) : Nat := b % 2 ^ 63

/-- `x₁ ≤ x₂` for two non-NaN binary64 patterns (−0.0 and +0.0 compare equal) -/
def le (b1 b2 : Nat) : Prop :=
  match sign b1, sign b2 with
  | true, false => True
  | false, false => mag b1 ≤ mag b2
  | true, true => mag b2 ≤ mag b1
  | false, true => mag b1 = 0 ∧ mag b2 = 0

theorem strength_mono_mag (b1 b2 : Nat) (h : mag b1 ≤ mag b2) :
    strength (expo b1) (mant b1) ≤ strength (expo b2) (mant b2) := by
  apply strength_mono
  · unfold mant; omega
  · unfold mag at h; unfold expo mant; omega

theorem strength_zero (b : Nat) (h : mag b = 0) : strength (expo b) (mant b) = 0 := by
  have : expo b = 0 := by unfold mag at h; unfold expo; omega
  unfold strength
  rw [this]
  simp

end Yata.F64
