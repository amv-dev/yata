/-
  Moving averages are averages (C15), proved for the specs that the machines equal (C02/C03).  The three laws are
  predicates on `f : K → List K → K` (construction value, stream): `Affine`, `Additive`, `Hull`, together `Average`; each
  passes to `fun v xs => f v (Spec.series (g v) xs)`, `f` over the series of `g` (`.over`: TRIMA, HMA, DMA, TMA), and each
  of `Affine`, `Hull` alone makes constants fixed points (`.constant`).  Every average of a window with fixed weights is
  a `Spec.conv`, and a `Spec.conv` with positive weights is an `Average` (`conv_average`), through the weighted sum
  `wsum`; VWMA takes its weights from the data; the exponential recurrence (EMA, RMA, WSMA) goes by induction on the
  stream; it is also monotone, which bounds the quotient of TSI (C12).
-/
import YataProofs.Numeric.WMA
import YataProofs.Numeric.EMA
import YataProofs.Scalar
import Mathlib.Tactic.FieldSimp
namespace Yata

section
variable {K : Type} [LinearOrder K]

def Hull (f : K → List K → K) : Prop :=
  ∀ v xs lo hi, (∀ x ∈ v :: xs, lo ≤ x ∧ x ≤ hi) → lo ≤ f v xs ∧ f v xs ≤ hi

theorem Hull.over {f g : K → List K → K} (hf : Hull f) (hg : Hull g) : Hull fun v xs => f v (Spec.series (g v) xs) := by
  intro v xs lo hi h
  have hv := h v List.mem_cons_self
  refine hf _ _ lo hi (List.forall_mem_cons.2 ⟨hv, fun x hx => ?_⟩)
  obtain ⟨i, rfl⟩ := series_mem (g v) xs x hx
  exact hg v _ lo hi (List.forall_mem_cons.2 ⟨hv, fun y hy => h y (List.mem_cons_of_mem _ (List.mem_of_mem_take hy))⟩)

theorem Hull.constant {f : K → List K → K} (h : Hull f) (v : K) (k : Nat) : f v (List.replicate k v) = v := by
  have := h v (List.replicate k v) v v fun x hx => by
    obtain rfl : x = v := (List.mem_cons.mp hx).elim id List.eq_of_mem_replicate
    exact ⟨le_rfl, le_rfl⟩
  exact le_antisymm this.2 this.1

end

variable {K : Type} [Field K]

def Affine (f : K → List K → K) : Prop :=
  ∀ a b v xs, f (a * v + b) (xs.map fun x => a * x + b) = a * f v xs + b

def Additive (f : K → List K → K) : Prop :=
  ∀ v w xs ys, xs.length = ys.length → f (v + w) (List.zipWith (· + ·) xs ys) = f v xs + f w ys

theorem Affine.over {f g : K → List K → K} (hf : Affine f) (hg : Affine g) :
    Affine fun v xs => f v (Spec.series (g v) xs) := fun a b v xs =>
  (congrArg (f _) (series_map (g v) _ _ xs (hg a b v))).trans (hf a b v _)

theorem Additive.over {f g : K → List K → K} (hf : Additive f) (hg : Additive g) :
    Additive fun v xs => f v (Spec.series (g v) xs) := fun v w xs ys h =>
  (congrArg (f _) (series_zipWith (g v) (g w) _ xs ys h (hg v w))).trans
    (hf v w _ _ (by rw [series_length, series_length, h]))

theorem Affine.constant {f : K → List K → K} (h : Affine f) (v : K) (k : Nat) : f v (List.replicate k v) = v := by
  simpa using h 0 v 0 (List.replicate k 0)

theorem conv_eq (ws : List K) (v : K) (xs : List K) :
    Spec.conv ws v xs = wsum (lastN ws.length (history ws.length v xs)) ws / ws.sum := rfl

theorem conv_affine (ws : List K) (hs : ws.sum ≠ 0) : Affine (Spec.conv ws) := by
  intro a b v xs
  rw [conv_eq, conv_eq, win_map (fun x => a * x + b), wsum_affine a b _ _ (win_length _ _ _)]
  field_simp

theorem conv_add (ws : List K) : Additive (Spec.conv ws) := by
  intro v w xs ys h
  rw [conv_eq, conv_eq, conv_eq, win_zipWith (· + ·) _ v w xs ys h,
    wsum_add _ _ _ (by rw [win_length, win_length]), add_div]

theorem sum_map_mul_eq_wsum (l : List (K × K)) :
    (l.map fun p => p.1 * p.2).sum = wsum (l.map Prod.fst) (l.map Prod.snd) := by
  rw [wsum, List.zipWith_map, List.zipWith_self]

theorem vwma_affine (n : Nat) (a b : K) (v : K × K) (xs : List (K × K))
    (hs : ((lastN n (history n v xs)).map fun p => p.2).sum ≠ 0) :
    Spec.vwma n (a * v.1 + b, v.2) (xs.map fun p => (a * p.1 + b, p.2)) = a * Spec.vwma n v xs + b := by
  unfold Spec.vwma
  rw [win_map (fun p : K × K => (a * p.1 + b, p.2)) n v xs]
  generalize lastN n (history n v xs) = l at hs
  have h1 : (l.map fun p : K × K => (a * p.1 + b, p.2)).map Prod.fst = (l.map Prod.fst).map fun x => a * x + b := by
    rw [List.map_map, List.map_map]; rfl
  have h2 : (l.map fun p : K × K => (a * p.1 + b, p.2)).map Prod.snd = l.map Prod.snd := by rw [List.map_map]; rfl
  dsimp only
  rw [sum_map_mul_eq_wsum, h1, h2, wsum_affine a b _ _ (by simp), ← sum_map_mul_eq_wsum, add_div, mul_div_assoc,
    mul_div_cancel_right₀ b hs]

theorem emaRec_affine (α : K) : Affine (Spec.emaRec α) := by
  intro a b v xs
  induction xs generalizing v with
  | nil => simp [Spec.emaRec]
  | cons x t ih =>
    simp only [List.map_cons, Spec.emaRec]
    have : (a * x + b - (a * v + b)) * α + (a * v + b) = a * ((x - v) * α + v) + b := by ring
    rw [this, ih]

theorem emaRec_add (α : K) : Additive (Spec.emaRec α) := by
  intro v w xs ys h
  induction xs generalizing ys v w with
  | nil => cases ys <;> simp_all [Spec.emaRec]
  | cons x t ih =>
    cases ys with
    | nil => simp at h
    | cons y u =>
      simp only [List.zipWith_cons_cons, Spec.emaRec]
      have : (x + y - (v + w)) * α + (v + w) = ((x - v) * α + v) + ((y - w) * α + w) := by ring
      rw [this, ih _ _ u (by simpa using h)]

theorem e1_affine (α : K) : Affine (e1 α) := emaRec_affine α

theorem e2_affine (α : K) : Affine (e2 α) := (emaRec_affine α).over (e1_affine α)

theorem e3_affine (α : K) : Affine (e3 α) := (emaRec_affine α).over (e2_affine α)

variable [LinearOrder K]

structure Average (f : K → List K → K) : Prop where
  affine : Affine f
  additive : Additive f
  hull : Hull f

theorem Average.over {f g : K → List K → K} (hf : Average f) (hg : Average g) :
    Average fun v xs => f v (Spec.series (g v) xs) :=
  ⟨hf.affine.over hg.affine, hf.additive.over hg.additive, hf.hull.over hg.hull⟩

variable [IsStrictOrderedRing K]

theorem conv_hull (ws : List K) (hw : ∀ w ∈ ws, 0 ≤ w) (hs : 0 < ws.sum) : Hull (Spec.conv ws) := fun v xs lo hi h =>
  wmean_hull lo hi _ ws (win_length _ v xs) (fun x hx => h x (mem_win _ _ _ _ hx)) hw hs

theorem conv_average (ws : List K) (h : ∀ w ∈ ws, 0 < w) (hne : ws ≠ []) : Average (Spec.conv ws) :=
  have hs := List.sum_pos _ h hne
  ⟨conv_affine ws hs.ne', conv_add ws, conv_hull ws (fun w hw => (h w hw).le) hs⟩

omit [LinearOrder K] [IsStrictOrderedRing K] in
theorem sma_eq_conv (n : Nat) : Spec.sma (α := K) n = Spec.conv (List.replicate n 1) := by
  funext v xs
  rw [conv_eq, List.length_replicate, wsum_ones _ n (win_length n v xs), sum_replicate_field, mul_one]
  rfl

theorem sma_average (n : Nat) (hn : 0 < n) : Average (Spec.sma (α := K) n) := by
  rw [sma_eq_conv]
  exact conv_average _ (fun w hw => List.eq_of_mem_replicate hw ▸ zero_lt_one) (by rw [Ne, List.replicate_eq_nil_iff]; omega)

theorem wma_eq_conv (n : Nat) : Spec.wma (α := K) n = Spec.conv ((List.range' 1 n).map Nat.cast) := by
  funext v xs
  rw [conv_eq, List.length_map, List.length_range', ramp_sum, Spec.wma, rampSum_eq_wsumIdx, wsumIdx]
  unfold Spec.win
  rw [win_length]

theorem wma_average (n : Nat) (hn : 0 < n) : Average (Spec.wma (α := K) n) := by
  rw [wma_eq_conv]
  refine conv_average _ (fun w hw => ?_) (by rw [Ne, List.map_eq_nil_iff, List.range'_eq_nil_iff]; omega)
  obtain ⟨i, hi, rfl⟩ := List.mem_map.mp hw
  exact Nat.cast_pos.mpr (List.mem_range'_1.mp hi).1

omit [LinearOrder K] [IsStrictOrderedRing K] in
theorem swma_eq_conv (n : Nat) (hn : 2 ≤ n) : Spec.swma (α := K) n = Spec.conv ((List.range n).map (triW n)) := by
  funext v xs
  unfold Spec.swma
  rw [if_neg (by omega), weighted_eq_wsumIdx, wsumIdx, ← List.range_eq_range', conv_eq]
  simp only [Spec.win, win_length, List.length_map, List.length_range]
  rfl

theorem swma_average (n : Nat) (hn : 2 ≤ n) : Average (Spec.swma (α := K) n) := by
  rw [swma_eq_conv n hn]
  refine conv_average _ (fun y hy => ?_) (by rw [Ne, List.map_eq_nil_iff, List.range_eq_nil]; omega)
  obtain ⟨i, hi, rfl⟩ := List.mem_map.mp hy
  exact Nat.cast_pos.mpr (Nat.lt_min.mpr ⟨Nat.succ_pos i, Nat.sub_pos_of_lt (List.mem_range.mp hi)⟩)

theorem vwma_hull (n : Nat) (v : K × K) (xs : List (K × K)) (lo hi : K)
    (hp : ∀ p ∈ v :: xs, lo ≤ p.1 ∧ p.1 ≤ hi ∧ 0 ≤ p.2)
    (hs : 0 < ((lastN n (history n v xs)).map fun p => p.2).sum) :
    lo ≤ Spec.vwma n v xs ∧ Spec.vwma n v xs ≤ hi := by
  unfold Spec.vwma
  have hm : ∀ p ∈ lastN n (history n v xs), lo ≤ p.1 ∧ p.1 ≤ hi ∧ 0 ≤ p.2 := fun p h => hp p (mem_win _ _ _ _ h)
  dsimp only
  rw [sum_map_mul_eq_wsum]
  exact wmean_hull lo hi _ _ (by simp) (List.forall_mem_map.2 fun p h => ⟨(hm p h).1, (hm p h).2.1⟩)
    (List.forall_mem_map.2 fun p h => (hm p h).2.2) hs

theorem emaRec_hull (α : K) (h0 : 0 ≤ α) (h1 : α ≤ 1) : Hull (Spec.emaRec α) := by
  intro v xs lo hi h
  induction xs generalizing v with
  | nil => exact h v List.mem_cons_self
  | cons x t ih =>
    have hx := h x (List.mem_cons_of_mem _ List.mem_cons_self)
    exact ih _ (List.forall_mem_cons.2 ⟨lerp_between h0 h1 hx (h v List.mem_cons_self),
      fun y hy => h y (List.mem_cons_of_mem _ (List.mem_cons_of_mem _ hy))⟩)

theorem e2_hull (α : K) (h0 : 0 ≤ α) (h1 : α ≤ 1) : Hull (e2 α) := (emaRec_hull α h0 h1).over (emaRec_hull α h0 h1)

theorem e3_hull (α : K) (h0 : 0 ≤ α) (h1 : α ≤ 1) : Hull (e3 α) := (emaRec_hull α h0 h1).over (e2_hull α h0 h1)

/-- the two streams are images of one list: equal lengths for free, and the form in which `Spec.series` gives them -/
theorem emaRec_mono {ι : Type} (a : K) (h0 : 0 ≤ a) (h1 : a ≤ 1) (l : List ι) (f g : ι → K) (v w : K)
    (hv : v ≤ w) (h : ∀ i ∈ l, f i ≤ g i) : Spec.emaRec a v (l.map f) ≤ Spec.emaRec a w (l.map g) := by
  induction l generalizing v w with
  | nil => exact hv
  | cons i t ih =>
    refine ih _ _ ?_ fun j hj => h j (by simp [hj])
    have e : ∀ p q : K, (p - q) * a + q = a * p + (1 - a) * q := fun p q => by ring
    rw [e, e]
    exact add_le_add (mul_le_mul_of_nonneg_left (h i (by simp)) h0) (mul_le_mul_of_nonneg_left hv (sub_nonneg.mpr h1))

theorem emaRec_dom {ι : Type} (a : K) (h0 : 0 ≤ a) (h1 : a ≤ 1) (l : List ι) (f g : ι → K) (v w : K)
    (hv : |v| ≤ w) (h : ∀ i ∈ l, |f i| ≤ g i) :
    |Spec.emaRec a v (l.map f)| ≤ Spec.emaRec a w (l.map g) := by
  have hneg : Spec.emaRec a (-w) (l.map fun i => -g i) = -Spec.emaRec a w (l.map g) := by
    simpa [List.map_map, Function.comp_def] using emaRec_affine a (-1) 0 w (l.map g)
  exact abs_le.mpr
    ⟨hneg ▸ emaRec_mono a h0 h1 l _ f _ v (abs_le.mp hv).1 fun i hi => (abs_le.mp (h i hi)).1,
      emaRec_mono a h0 h1 l f g v w (abs_le.mp hv).2 fun i hi => (abs_le.mp (h i hi)).2⟩

/-- numerator against denominator of TSI -/
theorem emaRec_series_dom (aL aS : K) (aL0 : 0 ≤ aL) (aL1 : aL ≤ 1) (aS0 : 0 ≤ aS) (aS1 : aS ≤ 1) (ch : List K) :
    |Spec.emaRec aS 0 (Spec.series (Spec.emaRec aL 0) ch)| ≤
      Spec.emaRec aS 0 (Spec.series (Spec.emaRec aL 0) (ch.map sabs)) := by
  unfold Spec.series
  rw [List.length_map]
  refine emaRec_dom _ aS0 aS1 _ _ _ 0 0 abs_zero.le fun i _ => ?_
  have := emaRec_dom _ aL0 aL1 (ch.take (i + 1)) id sabs 0 0 abs_zero.le fun x _ => (sabs_eq_abs x).ge
  rwa [List.map_id, List.map_take] at this

theorem ema_alpha_range (n : Nat) (hn : 0 < n) :
    (0 : K) ≤ ((2 : Nat) : K) / ((n + 1 : Nat) : K) ∧ ((2 : Nat) : K) / ((n + 1 : Nat) : K) ≤ 1 :=
  ⟨div_nonneg (Nat.cast_nonneg _) (Nat.cast_nonneg _),
    div_le_one_of_le₀ (Nat.cast_le.mpr (by omega)) (Nat.cast_nonneg _)⟩

theorem rma_alpha_range (n : Nat) (hn : 0 < n) : (0 : K) ≤ 1 / (n : K) ∧ (1 : K) / (n : K) ≤ 1 :=
  ⟨div_nonneg zero_le_one (Nat.cast_nonneg _), div_le_one_of_le₀ (Nat.one_le_cast.mpr hn) (Nat.cast_nonneg _)⟩

theorem tsi_range (short long : Nat) (hs : 0 < short) (hl : 0 < long) (v : K) (xs : List K) :
    -1 ≤ Spec.tsi short long v xs ∧ Spec.tsi short long v xs ≤ 1 := by
  obtain ⟨aL0, aL1⟩ := ema_alpha_range (K := K) long hl
  obtain ⟨aS0, aS1⟩ := ema_alpha_range (K := K) short hs
  exact guarded_quot_range _ _ (emaRec_series_dom _ _ aL0 aL1 aS0 aS1 (Spec.changes v xs))

end Yata
