/-
  Order facts about scalars. `smax`, `smin`, `sabs` (YataModel/Scalar.lean, written with `<` the way the Rust code compares
  floats) are `max`, `min`, `|·|` of the order. The quotient of a part by its whole lies in the unit interval, and so does
  whatever a guard of the code puts in its place when the whole vanishes; a convex combination lies between its endpoints
  (the one fact behind every "stays in the hull" statement of the recursive averages).
-/
import YataModel.Scalar
import Mathlib.Algebra.Order.Field.Basic
import Mathlib.Tactic.Ring
namespace Yata

section
variable {K : Type} [LinearOrder K]

theorem smax_eq_max (a b : K) : smax a b = max a b := by
  unfold smax; split
  · rw [max_eq_right (le_of_lt ‹a < b›)]
  · rw [max_eq_left (not_lt.mp ‹¬ a < b›)]

theorem smin_eq_min (a b : K) : smin a b = min a b := by
  unfold smin; split
  · rw [min_eq_right (le_of_lt ‹b < a›)]
  · rw [min_eq_left (not_lt.mp ‹¬ b < a›)]

/-- the two comparisons of a `.clamp(lo, hi)` -/
theorem ite_clamp_eq {lo hi : K} (h : lo ≤ hi) (x : K) :
    (if x < lo then lo else if hi < x then hi else x) = max lo (min x hi) := by
  split_ifs with h1 h2
  · rw [min_eq_left (h1.le.trans h), max_eq_left h1.le]
  · rw [min_eq_right h2.le, max_eq_right h]
  · rw [min_eq_left (not_lt.1 h2), max_eq_right (not_lt.1 h1)]

theorem ite_between {c : Prop} [Decidable c] {x y lo hi : K} (hx : lo ≤ x ∧ x ≤ hi) (hy : lo ≤ y ∧ y ≤ hi) :
    lo ≤ (if c then x else y) ∧ (if c then x else y) ≤ hi := by
  split
  · exact hx
  · exact hy

end

/-- the true range as `tr_close` computes it (src/core/ohlcv.rs: high `h`, low `l`, previous close `p`) against the
    textbook formula, which the source keeps beside it in a comment -/
theorem max_sub_min_eq {G : Type} [AddCommGroup G] [LinearOrder G] [IsOrderedAddMonoid G]
    (h l p : G) (hl : l ≤ h) :
    max h p - min l p = max (max (h - l) |h - p|) |l - p| := by
  rcases le_total p l with hp | hp
  · -- p ≤ l ≤ h : both sides are h - p
    rw [max_eq_left (hp.trans hl), min_eq_right hp, abs_of_nonneg (sub_nonneg.2 (hp.trans hl)),
      abs_of_nonneg (sub_nonneg.2 hp), max_eq_right (sub_le_sub_left hp h),
      max_eq_left (sub_le_sub_right hl p)]
  · rw [min_eq_left hp, abs_of_nonpos (sub_nonpos.2 hp), neg_sub]
    rcases le_total p h with hq | hq
    · -- l ≤ p ≤ h : both sides are h - l
      rw [max_eq_left hq, abs_of_nonneg (sub_nonneg.2 hq), max_eq_left (sub_le_sub_left hp h),
        max_eq_left (sub_le_sub_right hq l)]
    · -- l ≤ h ≤ p : both sides are p - l
      rw [max_eq_right hq, abs_of_nonpos (sub_nonpos.2 hq), neg_sub,
        max_eq_right (max_le (sub_le_sub_right hq l) (sub_le_sub_left hl p))]

variable {K : Type} [Field K] [LinearOrder K] [IsStrictOrderedRing K]

theorem sabs_eq_abs (a : K) : sabs a = |a| := by
  unfold sabs; split
  · rw [abs_of_neg ‹a < 0›]
  · rw [abs_of_nonneg (not_lt.mp ‹¬ a < 0›)]

theorem div_mem_unit {a d : K} (h0 : 0 ≤ a) (h1 : a ≤ d) : 0 ≤ a / d ∧ a / d ≤ 1 :=
  ⟨div_nonneg h0 (h0.trans h1), div_le_one_of_le₀ h1 (h0.trans h1)⟩

theorem div_mem_sym_unit {a d : K} (h : |a| ≤ d) : -1 ≤ a / d ∧ a / d ≤ 1 := by
  have hd : 0 ≤ d := (abs_nonneg a).trans h
  rw [← abs_le, abs_div, abs_of_nonneg hd]
  exact div_le_one_of_le₀ h hd

theorem abs_sub_le_add_of_nonneg {p n : K} (hp : 0 ≤ p) (hn : 0 ≤ n) : |p - n| ≤ p + n :=
  (abs_sub p n).trans_eq (by rw [abs_of_nonneg hp, abs_of_nonneg hn])

theorem diff_over_sum_mem {p n : K} (hp : 0 ≤ p) (hn : 0 ≤ n) : -1 ≤ (p - n) / (p + n) ∧ (p - n) / (p + n) ≤ 1 :=
  div_mem_sym_unit (abs_sub_le_add_of_nonneg hp hn)

/-- whatever the guard `c` of the code tests (`d = 0`, `¬ 0 < d`, `high = low`): its value 0 lies in the range too -/
theorem zero_or_quot_range (c : Prop) [Decidable c] {a d : K} (h : |a| ≤ d) :
    -1 ≤ (if c then 0 else a / d) ∧ (if c then 0 else a / d) ≤ 1 :=
  ite_between ⟨neg_nonpos.2 zero_le_one, zero_le_one⟩ (div_mem_sym_unit h)

theorem guarded_quot_range (a d : K) (h : |a| ≤ d) :
    -1 ≤ (if 0 < d then a / d else 0) ∧ (if 0 < d then a / d else 0) ≤ 1 := by
  simpa only [ite_not] using zero_or_quot_range (¬ 0 < d) h

theorem smax_scale (a d : K) (ha : 0 < a) : smax (a * d) 0 = a * smax d 0 := by
  rw [smax_eq_max, smax_eq_max, mul_max_of_nonneg _ _ ha.le, mul_zero]

theorem smin_scale (a d : K) (ha : 0 < a) : smin (a * d) 0 = a * smin d 0 := by
  rw [smin_eq_min, smin_eq_min, mul_min_of_nonneg _ _ ha.le, mul_zero]

theorem convex_between {c x y lo hi : K} (h0 : 0 ≤ c) (h1 : c ≤ 1) (hx : lo ≤ x ∧ x ≤ hi) (hy : lo ≤ y ∧ y ≤ hi) :
    lo ≤ x * c + (1 - c) * y ∧ x * c + (1 - c) * y ≤ hi := by
  have h1' := sub_nonneg.2 h1
  have e : ∀ b : K, b * c + (1 - c) * b = b := fun b => by ring
  exact ⟨(e lo).ge.trans (add_le_add (mul_le_mul_of_nonneg_right hx.1 h0) (mul_le_mul_of_nonneg_left hy.1 h1')),
    (add_le_add (mul_le_mul_of_nonneg_right hx.2 h0) (mul_le_mul_of_nonneg_left hy.2 h1')).trans (e hi).le⟩

/-- `(x − y)·c + y` is how src/methods/ema.rs writes the step of the average (a `mul_add`) -/
theorem lerp_between {c x y lo hi : K} (h0 : 0 ≤ c) (h1 : c ≤ 1) (hx : lo ≤ x ∧ x ≤ hi) (hy : lo ≤ y ∧ y ≤ hi) :
    lo ≤ (x - y) * c + y ∧ (x - y) * c + y ≤ hi := by
  rw [show (x - y) * c + y = x * c + (1 - c) * y by ring]; exact convex_between h0 h1 hx hy

end Yata
