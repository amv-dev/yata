/-
  Highest / Lowest / HighestLowestDelta: the cached extremum is numerically the maximum / minimum of the window,
  with ties, signed zeros (bit-equality ≠ numeric equality) and at the moment the extremum leaves.

  `FloatLike β K` stands for the floats: `β` are bit patterns, `num : β → K` their numeric value in a linear order (no NaN);
  `bitEq` implies numeric equality and does not follow from it (-0.0 and +0.0).
-/
import YataProofs.Window
import YataModel.Methods.Basic
import Mathlib.Order.OrderDual
namespace Yata

class FloatLike (β : Type) (K : outParam Type) [LinearOrder K] extends LT β, LE β, BitEq β where
  num : β → K
  lt_iff : ∀ a b : β, a < b ↔ num a < num b
  le_iff : ∀ a b : β, a ≤ b ↔ num a ≤ num b
  bitEq_refl : ∀ a : β, bitEq a a = true
  bitEq_num : ∀ a b : β, bitEq a b = true → num a = num b

open FloatLike

variable {β K : Type} [LinearOrder K] [FloatLike β K] {P : Nat}

def IsMaxOf (m : β) (l : List β) : Prop := m ∈ l ∧ ∀ x ∈ l, num x ≤ num m
def IsMinOf (m : β) (l : List β) : Prop := m ∈ l ∧ ∀ x ∈ l, num m ≤ num x

/-! ### order reversal
  `βᵒᵈ` is `β` with `<` and `≤` reversed.  `Lowest β`, `LowestIndex β`, `foldMin`, `IsMinOf`, … are `Highest βᵒᵈ`, …
  by unfolding, so each fact is proved for the maximum and read at `βᵒᵈ` for the minimum. -/

instance {β : Type} [BitEq β] : BitEq βᵒᵈ := ‹BitEq β›

instance : FloatLike βᵒᵈ Kᵒᵈ where
  num a := OrderDual.toDual (num (OrderDual.ofDual a))
  lt_iff a b := lt_iff (OrderDual.ofDual b) (OrderDual.ofDual a)
  le_iff a b := le_iff (OrderDual.ofDual b) (OrderDual.ofDual a)
  bitEq_refl a := bitEq_refl (OrderDual.ofDual a)
  bitEq_num a b := bitEq_num (OrderDual.ofDual a) (OrderDual.ofDual b)

theorem isMax_replicate (v : β) {n : Nat} (hn : 0 < n) : IsMaxOf v (List.replicate n v) :=
  ⟨List.mem_replicate.mpr ⟨by omega, rfl⟩, fun y hy => by rw [List.eq_of_mem_replicate hy]⟩

theorem isMin_replicate (v : β) {n : Nat} (hn : 0 < n) : IsMinOf v (List.replicate n v) :=
  isMax_replicate (β := βᵒᵈ) v hn

theorem iterAll_spec {w : Window β} (h : Window.Inv P w) : Window.iterAll w = .ok (Window.toList w).reverse :=
  Window.iterCollect_start h

theorem IsMaxOf.congr {m : β} {l l' : List β} (h : IsMaxOf m l) (hp : ∀ x, x ∈ l ↔ x ∈ l') : IsMaxOf m l' :=
  ⟨(hp m).mp h.1, fun x hx => h.2 x ((hp x).mpr hx)⟩

/-! ### one push on a cached maximum
  `Highest::next` on the window `a :: t` with the cached maximum `M`: the new value `x` takes over when `M ≤ x`; otherwise
  `M` stays, unless the leaving `a` carries its bits: then the new window `t ++ [x]` is scanned (`isMax_rescan`). -/

theorem isMax_push_ge {M a x : β} {t : List β} (h : IsMaxOf M (a :: t)) (hge : M ≤ x) : IsMaxOf x (t ++ [x]) := by
  refine ⟨by simp, fun y hy => ?_⟩
  rcases List.mem_append.mp hy with hy | hy
  · exact le_trans (h.2 y (List.mem_cons_of_mem _ hy)) ((le_iff _ _).mp hge)
  · rw [List.mem_singleton.mp hy]

theorem isMax_push_keep {M a x : β} {t : List β} (h : IsMaxOf M (a :: t)) (hlt : ¬ M ≤ x) (hbe : ¬ bitEq a M = true) :
    IsMaxOf M (t ++ [x]) := by
  have hin : M ∈ t := (List.mem_cons.mp h.1).resolve_left fun he => hbe (he ▸ bitEq_refl M)
  refine ⟨List.mem_append_left _ hin, fun y hy => ?_⟩
  rcases List.mem_append.mp hy with hy | hy
  · exact h.2 y (List.mem_cons_of_mem _ hy)
  · rw [List.mem_singleton.mp hy]
    exact le_of_lt (not_le.mp fun h' => hlt ((le_iff _ _).mpr h'))

/-- `he` is the fast path of `HighestLowestDelta.step` for the maximum; `b` asks for a rescan, which `step` then does for
    both extrema -/
theorem isMax_fast [DecidableLE β] {M a x m : β} {b : Bool} {t : List β} (h : IsMaxOf M (a :: t))
    (he : (if M ≤ x then (x, false) else if bitEq a M then (M, true) else (M, false)) = (m, b)) (hb : b = false) :
    IsMaxOf m (t ++ [x]) := by
  split at he
  · next hge => cases he; exact isMax_push_ge h hge
  · next hge =>
    split at he
    · cases he; cases hb
    · next hbe => cases he; exact isMax_push_keep h hge hbe

theorem isMin_fast [DecidableLE β] {M a x m : β} {b : Bool} {t : List β} (h : IsMinOf M (a :: t))
    (he : (if x ≤ M then (x, false) else if bitEq a M then (M, true) else (M, false)) = (m, b)) (hb : b = false) :
    IsMinOf m (t ++ [x]) :=
  isMax_fast (β := βᵒᵈ) h he hb

variable [DecidableLT β]

theorem num_le_num_smax (a b : β) : num a ≤ num (smax a b) ∧ num b ≤ num (smax a b) := by
  unfold smax
  split
  · next h => exact ⟨le_of_lt ((lt_iff a b).mp h), le_refl _⟩
  · next h => exact ⟨le_refl _, not_lt.mp fun h' => h ((lt_iff a b).mpr h')⟩

theorem smax_eq_or (a b : β) : smax a b = a ∨ smax a b = b := by
  unfold smax; split <;> simp

theorem IsMaxOf.of_smax {m a b : β} {t : List β} (h : IsMaxOf m (smax a b :: t)) : IsMaxOf m (a :: b :: t) := by
  obtain ⟨ha, hb⟩ := num_le_num_smax a b
  have htop := h.2 _ List.mem_cons_self
  refine ⟨?_, List.forall_mem_cons.mpr ⟨ha.trans htop, List.forall_mem_cons.mpr ⟨hb.trans htop, fun x hx =>
    h.2 x (List.mem_cons_of_mem _ hx)⟩⟩⟩
  rcases List.mem_cons.mp h.1 with e | hm
  · rw [e]; rcases smax_eq_or a b with e' | e' <;> simp [e']
  · simp [hm]

theorem foldMax_isMax (init : β) (l : List β) : IsMaxOf (foldMax init l) (init :: l) := by
  induction l generalizing init with
  | nil => exact isMax_replicate init Nat.one_pos
  | cons y t ih => exact (ih (smax init y)).of_smax

theorem foldMin_isMin (init : β) (l : List β) : IsMinOf (foldMin init l) (init :: l) :=
  foldMax_isMax (β := βᵒᵈ) init l

theorem isMax_rescan (x : β) (t : List β) : IsMaxOf (foldMax x (t ++ [x]).reverse) (t ++ [x]) :=
  (foldMax_isMax x _).congr fun y => by simp [or_comm]

theorem isMin_rescan (x : β) (t : List β) : IsMinOf (foldMin x (t ++ [x]).reverse) (t ++ [x]) :=
  isMax_rescan (β := βᵒᵈ) x t

variable [DecidableLE β]

namespace Highest

structure Inv (P : Nat) (s : Highest β) : Prop where
  winv : Window.Inv P s.window
  pos : 0 < s.window.size
  isMax : IsMaxOf s.value (Window.toList s.window)

theorem next_spec {s : Highest β} (x : β) (h : Inv P s) :
    ∃ o s', s.next x = .ok (o, s') ∧ Inv P s' ∧ o = s'.value ∧
      Window.toList s'.window = (Window.toList s.window).tail ++ [x] := by
  obtain ⟨a, t, w', hat, hp, hinv', hsz, htl⟩ := Window.push_cons x h.winv h.pos
  have hmax := h.isMax
  rw [hat] at hmax ⊢
  have hit := iterAll_spec hinv'
  suffices ∃ m, s.next x = .ok (m, ⟨m, w'⟩) ∧ IsMaxOf m (t ++ [x]) by
    obtain ⟨m, hn, hm⟩ := this
    exact ⟨m, ⟨m, w'⟩, hn, ⟨hinv', hsz ▸ h.pos, by rw [htl]; exact hm⟩, rfl, htl⟩
  unfold Highest.next
  simp only [hp]
  by_cases hge : s.value ≤ x
  · exact ⟨x, by simp [hge], isMax_push_ge hmax hge⟩
  · by_cases hbe : bitEq a s.value = true
    · exact ⟨_, by simp only [hge, hbe, hit, htl, if_true, if_false], isMax_rescan x t⟩
    · exact ⟨s.value, by simp [hge, hbe], isMax_push_keep hmax hge hbe⟩

omit [DecidableLT β] [DecidableLE β] in
theorem new_spec {n : Nat} (v : β) (hn0 : 0 < n) (hn : n ≤ P - 1) :
    ∃ s, Highest.new P n v = .ok s ∧ Inv P s ∧ Window.toList s.window = List.replicate n v := by
  obtain ⟨w, hw, hinv, htl, hsz⟩ := Window.new_ok (P := P) v hn
  exact ⟨⟨v, w⟩, by rw [Highest.new, if_neg (not_zero_or_max hn0 hn), hw]; rfl, ⟨hinv, hsz ▸ hn0, htl ▸ isMax_replicate v hn0⟩, htl⟩

end Highest

namespace Lowest

structure Inv (P : Nat) (s : Lowest β) : Prop where
  winv : Window.Inv P s.window
  pos : 0 < s.window.size
  isMin : IsMinOf s.value (Window.toList s.window)

def toHighest {β : Type} (s : Lowest β) : Highest βᵒᵈ := ⟨s.value, s.window⟩
def ofHighest {β : Type} (s : Highest βᵒᵈ) : Lowest β := ⟨s.value, s.window⟩

theorem next_eq_dual {β : Type} [LT β] [DecidableLT β] [LE β] [DecidableLE β] [BitEq β] (s : Lowest β) (x : β) :
    s.next x = (s.toHighest.next x).map fun p => (p.1, ofHighest p.2) := by
  -- with `βᵒᵈ` unfolded to `β` the two programs differ in the direction of `≤` only
  unfold Lowest.next Highest.next toHighest OrderDual
  cases s.window.push x with
  | error e => rfl
  | ok p =>
    have hd : (@LE.le β (OrderDual.instLE β) s.value x) = (x ≤ s.value) := rfl
    simp only [hd]
    split
    · rfl
    · split
      · cases p.2.iterAll <;> rfl
      · rfl

omit [DecidableLT β] [DecidableLE β] in
theorem inv_iff_dual {s : Lowest β} : Inv P s ↔ Highest.Inv P s.toHighest :=
  ⟨fun h => ⟨h.winv, h.pos, h.isMin⟩, fun h => ⟨h.winv, h.pos, h.isMax⟩⟩

theorem next_spec {s : Lowest β} (x : β) (h : Inv P s) :
    ∃ o s', s.next x = .ok (o, s') ∧ Inv P s' ∧ o = s'.value ∧
      Window.toList s'.window = (Window.toList s.window).tail ++ [x] := by
  obtain ⟨o, s', hn, hi, ho, ht⟩ := Highest.next_spec (β := βᵒᵈ) x (inv_iff_dual.mp h)
  exact ⟨o, ofHighest s', by rw [next_eq_dual, hn]; rfl, inv_iff_dual.mpr hi, ho, ht⟩

omit [DecidableLT β] [DecidableLE β] in
theorem new_spec {n : Nat} (v : β) (hn0 : 0 < n) (hn : n ≤ P - 1) :
    ∃ s, Lowest.new P n v = .ok s ∧ Inv P s ∧ Window.toList s.window = List.replicate n v := by
  obtain ⟨w, hw, hinv, htl, hsz⟩ := Window.new_ok (P := P) v hn
  exact ⟨⟨v, w⟩, by rw [Lowest.new, if_neg (not_zero_or_max hn0 hn), hw]; rfl, ⟨hinv, hsz ▸ hn0, htl ▸ isMin_replicate v hn0⟩, htl⟩

end Lowest

namespace HighestLowestDelta

structure Inv (P : Nat) (s : HighestLowestDelta β) : Prop where
  winv : Window.Inv P s.window
  pos : 0 < s.window.size
  isMax : IsMaxOf s.highest (Window.toList s.window)
  isMin : IsMinOf s.lowest (Window.toList s.window)

theorem step_spec {s : HighestLowestDelta β} (x : β) (h : Inv P s) :
    ∃ s', s.step x = .ok s' ∧ Inv P s' ∧ Window.toList s'.window = (Window.toList s.window).tail ++ [x] := by
  obtain ⟨a, t, w', hat, hp, hinv', hsz, htl⟩ := Window.push_cons x h.winv h.pos
  have hmax := h.isMax
  have hmin := h.isMin
  rw [hat] at hmax hmin ⊢
  have hit := iterAll_spec hinv'
  suffices ∃ hi lo, s.step x = .ok ⟨hi, lo, w'⟩ ∧ IsMaxOf hi (t ++ [x]) ∧ IsMinOf lo (t ++ [x]) by
    obtain ⟨hi, lo, hn, h1, h2⟩ := this
    exact ⟨_, hn, ⟨hinv', hsz ▸ h.pos, by rw [htl]; exact h1, by rw [htl]; exact h2⟩, htl⟩
  unfold HighestLowestDelta.step
  simp only [hp]
  generalize e1 : (if s.highest ≤ x then (x, false) else if bitEq a s.highest then (s.highest, true)
      else (s.highest, false)) = r1
  generalize e2 : (if x ≤ s.lowest then (x, false) else if bitEq a s.lowest then (s.lowest, true)
      else (s.lowest, false)) = r2
  obtain ⟨m1, b1⟩ := r1
  obtain ⟨m2, b2⟩ := r2
  by_cases hs : (b1 || b2) = true
  · rw [if_pos hs, hit, htl]
    exact ⟨_, _, rfl, isMax_rescan x t, isMin_rescan x t⟩
  · rw [if_neg hs]
    simp only [Bool.or_eq_true, not_or, Bool.not_eq_true] at hs
    exact ⟨_, _, rfl, isMax_fast hmax e1 hs.1, isMin_fast hmin e2 hs.2⟩

omit [DecidableLT β] [DecidableLE β] in
theorem new_spec {n : Nat} (v : β) (hn0 : 0 < n) (hn : n ≤ P - 1) :
    ∃ s, HighestLowestDelta.new P n v = .ok s ∧ Inv P s ∧ Window.toList s.window = List.replicate n v := by
  obtain ⟨w, hw, hinv, htl, hsz⟩ := Window.new_ok (P := P) v hn
  exact ⟨⟨v, v, w⟩, by rw [HighestLowestDelta.new, if_neg (not_zero_or_max hn0 hn), hw]; rfl,
    ⟨hinv, hsz ▸ hn0, htl ▸ isMax_replicate v hn0, htl ▸ isMin_replicate v hn0⟩, htl⟩

end HighestLowestDelta

/-- the fold that `argFold` (HighestIndex / LowestIndex) and `rescan` (the reversal signals) share, from position `k` on;
    `I i v pre`: what the pair `(i, v)` is of the part `pre` already scanned, whose first element has position `off`
    (added on the right, so that `off = 0` disappears by reduction) -/
theorem foldArg_go {α : Type} (better : α → α → Bool) (I : Nat → α → List α → Prop) (off : Nat)
    (htake : ∀ {i v pre} y, I i v pre → better y v = true → I (pre.length + off) y (pre ++ [y]))
    (hkeep : ∀ {i v pre} y, I i v pre → better y v = false → I i v (pre ++ [y]))
    (t pre : List α) (k i0 : Nat) (v0 : α) (h : I i0 v0 pre) (hk : k = pre.length + off) :
    ∃ i v, (t.zipIdx k).foldl (fun (acc : Nat × α) (b : α × Nat) => if better b.1 acc.2 then (b.2, b.1) else acc)
      (i0, v0) = (i, v) ∧ I i v (pre ++ t) := by
  induction t generalizing pre k i0 v0 with
  | nil => exact ⟨i0, v0, rfl, by rwa [List.append_nil]⟩
  | cons y t ih =>
    have hk' : k + 1 = (pre ++ [y]).length + off := by rw [List.length_append, List.length_singleton]; omega
    rw [List.zipIdx_cons, List.foldl_cons, List.append_cons]
    cases hb : better y v0 with
    | true => rw [if_pos rfl]; exact ih (pre ++ [y]) (k + 1) k y (hk ▸ htake y h hb) hk'
    | false => rw [if_neg Bool.false_ne_true]; exact ih (pre ++ [y]) (k + 1) i0 v0 (hkeep y h hb) hk'

end Yata
