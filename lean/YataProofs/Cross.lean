/-
  Crossing detectors. Each remembers the last difference `value − base` and fires by a rule on the previous and the current
  one, which holds by unfolding; exchanging the two series negates the differences and so exchanges the two rules.
-/
import YataProofs.Runner
import YataModel.Methods.Signals
import Mathlib.Algebra.Order.Field.Basic
namespace Yata
variable {K : Type} [Field K] [LinearOrder K]

/-- the tests of `CrossAbove::binary` and `CrossUnder::binary` on the previous and the current difference -/
def crossAboveRule (prev cur : K) : Bool := decide (prev < 0) && decide (0 ≤ cur)
def crossUnderRule (prev cur : K) : Bool := decide (0 < prev) && decide (cur ≤ 0)

def deltas (init : K × K) (xs : List (K × K)) : List K := (init :: xs).map fun p => p.1 - p.2

theorem ofI8_bool (b : Bool) :
    Action.ofI8 (if b = true then 1 else 0) = if b = true then Action.buyAll else Action.none := by
  cases b <;> rfl

theorem CrossAbove.next_def (s : CrossAbove K) (v : K × K) :
    (s.next v).1 = (if crossAboveRule s.last_delta (v.1 - v.2) then Action.buyAll else Action.none) ∧
    (s.next v).2.last_delta = v.1 - v.2 :=
  ⟨ofI8_bool _, rfl⟩

theorem CrossUnder.next_def (s : CrossUnder K) (v : K × K) :
    (s.next v).1 = (if crossUnderRule s.last_delta (v.1 - v.2) then Action.buyAll else Action.none) ∧
    (s.next v).2.last_delta = v.1 - v.2 :=
  ⟨ofI8_bool _, rfl⟩

theorem Cross.next_def (s : Cross K) (v : K × K) :
    (s.next v).1 = Action.ofI8 ((if crossAboveRule s.up.last_delta (v.1 - v.2) then 1 else 0) -
                                (if crossUnderRule s.down.last_delta (v.1 - v.2) then 1 else 0)) ∧
    (s.next v).2.up.last_delta = v.1 - v.2 ∧ (s.next v).2.down.last_delta = v.1 - v.2 :=
  ⟨rfl, rfl, rfl⟩

theorem cross_rules_exclusive (prev cur : K) : ¬ (crossAboveRule prev cur = true ∧ crossUnderRule prev cur = true) := by
  simp only [crossAboveRule, crossUnderRule, Bool.and_eq_true, decide_eq_true_eq]
  exact fun ⟨⟨h1, _⟩, ⟨h2, _⟩⟩ => lt_asymm h1 h2

theorem ofI8_neg (z : Int) : Action.ofI8 (-z) = (Action.ofI8 z).neg := by
  unfold Action.ofI8
  rcases Int.lt_trichotomy z 0 with h | rfl | h
  · rw [if_neg (by omega), if_pos (by omega), if_neg (by omega), if_neg (by omega)]; rfl
  · rfl
  · rw [if_neg (by omega), if_neg (by omega), if_neg (by omega), if_pos h]; rfl

def lastDelta (init : K × K) (h : List (K × K)) : K :=
  let p := (init :: h).getLast (by simp)
  p.1 - p.2

omit [LinearOrder K] in
theorem lastDelta_snoc (init : K × K) (h : List (K × K)) (x : K × K) :
    lastDelta init (h ++ [x]) = x.1 - x.2 := by
  simp only [lastDelta, ← List.cons_append, List.getLast_concat]

omit [LinearOrder K] in
theorem delta_run_spec {σ : Type} (r : K → K → Bool) (last : σ → K) (next : σ → K × K → Action × σ)
    (hnext : ∀ s v, (next s v).1 = (if r (last s) (v.1 - v.2) then Action.buyAll else Action.none) ∧
      last (next s v).2 = v.1 - v.2)
    (init : K × K) (s0 : σ) (h0 : last s0 = init.1 - init.2) (xs : List (K × K)) :
    ∃ outs s', runM (liftNext next) s0 xs = .ok (outs, s') ∧
      outs.length = xs.length ∧
      ∀ i (hi : i < outs.length) (hx : i < xs.length),
        outs[i] = if r (lastDelta init (xs.take i)) (xs[i].1 - xs[i].2) then Action.buyAll else Action.none := by
  obtain ⟨os, s', hr, _, hlen, houts⟩ :=
    runM_invariant (liftNext next)
      (fun h s => last s = lastDelta init h)
      (fun h o => o = if r (lastDelta init h.dropLast) (lastDelta init h) then Action.buyAll else Action.none)
      (fun h s x hs => ⟨_, _, rfl, by rw [(hnext s x).2, lastDelta_snoc],
        by rw [(hnext s x).1, hs, List.dropLast_concat, lastDelta_snoc]⟩)
      xs [] s0 h0
  refine ⟨os, s', hr, hlen, fun i hi hx => ?_⟩
  rw [houts i hi, List.nil_append, ← List.take_append_getElem hx, List.dropLast_concat, lastDelta_snoc]

variable [IsStrictOrderedRing K]

theorem crossAboveRule_neg (prev cur : K) : crossAboveRule (-prev) (-cur) = crossUnderRule prev cur := by
  simp only [crossAboveRule, crossUnderRule, Left.neg_neg_iff, Left.nonneg_neg_iff]

theorem crossUnderRule_neg (prev cur : K) : crossUnderRule (-prev) (-cur) = crossAboveRule prev cur := by
  simp only [crossAboveRule, crossUnderRule, Left.neg_pos_iff, Left.neg_nonpos_iff]

theorem Cross.sync_new (v : K × K) : (Cross.new v).up.last_delta = (Cross.new v).down.last_delta := rfl
theorem Cross.sync_next (s : Cross K) (v : K × K) :
    (s.next v).2.up.last_delta = (s.next v).2.down.last_delta := rfl

end Yata
