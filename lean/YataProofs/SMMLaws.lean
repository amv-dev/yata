/-
  C15 for the moving median (SMM): it commutes with every affine map x ↦ a·x + b (increasing or decreasing — sorting a
  reflected window reverses it and the two middle elements swap) and stays inside the hull of the values.
-/
import YataProofs.Scalar
import YataProofs.SMM
namespace Yata
variable {K : Type} [Field K]

/-- what `Spec.median` reads off the sorted list, the second position written as the mirror image `n − 1 − ⌊n/2⌋` of the
    first (the same position when `n` is odd), so that reversing the list visibly changes nothing -/
def mid2 (s : List K) : K :=
  (s[s.length / 2]?.getD 0 + s[s.length - 1 - s.length / 2]?.getD 0) * (1 / ((2 : Nat) : K))

theorem mid2_reverse (s : List K) : mid2 s.reverse = mid2 s := by
  unfold mid2
  rcases Nat.eq_zero_or_pos s.length with h0 | hpos
  · rw [List.eq_nil_of_length_eq_zero h0]; rfl
  · have b1 : s.length / 2 < s.length := Nat.div_lt_self hpos Nat.one_lt_two
    have b2 : s.length - 1 - s.length / 2 < s.length := by omega
    have e : s.length - 1 - (s.length - 1 - s.length / 2) = s.length / 2 := by omega
    rw [List.length_reverse, List.getElem?_reverse b1, List.getElem?_reverse b2, e, add_comm]

variable [LinearOrder K]

theorem median_eq_mid2 (l : List K) : Spec.median l = mid2 (Spec.sort l) := by
  have hi : (if l.length % 2 = 0 then l.length / 2 - 1 else l.length / 2) = l.length - 1 - l.length / 2 := by
    split <;> omega
  unfold Spec.median mid2
  simp only [sort_length, hi]

variable [IsStrictOrderedRing K]

theorem sort_map_increasing (a b : K) (ha : 0 < a) (l : List K) :
    Spec.sort (l.map fun x => a * x + b) = (Spec.sort l).map fun x => a * x + b := by
  refine (eq_sort_of_perm ?_ ((sort_perm l).map _)).symm
  rw [List.pairwise_map]
  exact (pairwise_sort l).imp fun h => add_le_add (mul_le_mul_of_nonneg_left h ha.le) le_rfl

theorem sort_map_decreasing (a b : K) (ha : a < 0) (l : List K) :
    Spec.sort (l.map fun x => a * x + b) = ((Spec.sort l).map fun x => a * x + b).reverse := by
  refine (eq_sort_of_perm ?_ ((List.reverse_perm _).trans ((sort_perm l).map _))).symm
  rw [List.pairwise_reverse, List.pairwise_map]
  exact (pairwise_sort l).imp fun h => add_le_add (mul_le_mul_of_nonpos_left h ha.le) le_rfl

theorem mid2_map_affine (a b : K) (s : List K) (hs : 0 < s.length) :
    mid2 (s.map fun x => a * x + b) = a * mid2 s + b := by
  have b1 : s.length / 2 < s.length := Nat.div_lt_self hs (by norm_num)
  have b2 : s.length - 1 - s.length / 2 < s.length := by omega
  unfold mid2
  rw [List.length_map, List.getElem?_map, List.getElem?_map, List.getElem?_eq_getElem b1, List.getElem?_eq_getElem b2]
  simp only [Option.map_some, Option.getD_some]
  push_cast; ring

theorem mid2_hull (s : List K) (hs : 0 < s.length) (lo hi : K) (h : ∀ x ∈ s, lo ≤ x ∧ x ≤ hi) :
    lo ≤ mid2 s ∧ mid2 s ≤ hi := by
  have b1 : s.length / 2 < s.length := Nat.div_lt_self hs (by norm_num)
  have b2 : s.length - 1 - s.length / 2 < s.length := by omega
  have e : mid2 s = s[s.length / 2] * (1 / ((2 : Nat) : K)) +
      (1 - 1 / ((2 : Nat) : K)) * s[s.length - 1 - s.length / 2] := by
    unfold mid2
    rw [List.getElem?_eq_getElem b1, List.getElem?_eq_getElem b2, Option.getD_some, Option.getD_some]
    push_cast; ring
  rw [e]
  exact convex_between (by norm_num) (by norm_num) (h _ (List.getElem_mem b1)) (h _ (List.getElem_mem b2))

theorem median_affine (a b : K) (ha : a ≠ 0) (l : List K) (hl : 0 < l.length) :
    Spec.median (l.map fun x => a * x + b) = a * Spec.median l + b := by
  have hs : 0 < (Spec.sort l).length := by rw [sort_length]; exact hl
  rw [median_eq_mid2, median_eq_mid2 l]
  rcases lt_or_gt_of_ne ha with hneg | hpos
  · rw [sort_map_decreasing a b hneg l, mid2_reverse, mid2_map_affine a b _ hs]
  · rw [sort_map_increasing a b hpos l, mid2_map_affine a b _ hs]

theorem median_hull (l : List K) (hl : 0 < l.length) (lo hi : K) (h : ∀ x ∈ l, lo ≤ x ∧ x ≤ hi) :
    lo ≤ Spec.median l ∧ Spec.median l ≤ hi := by
  rw [median_eq_mid2 l]
  exact mid2_hull _ (by rw [sort_length]; exact hl) lo hi fun x hx => h x ((sort_perm l).mem_iff.mp hx)

theorem smm_affine (n : Nat) (hn : 0 < n) (a b v : K) (ha : a ≠ 0) (xs : List K) :
    Spec.smm n (a * v + b) (xs.map fun x => a * x + b) = a * Spec.smm n v xs + b := by
  unfold Spec.smm Spec.win
  rw [win_map (fun x => a * x + b)]
  exact median_affine a b ha _ (by rw [win_length]; exact hn)

theorem smm_hull (n : Nat) (hn : 0 < n) (v : K) (xs : List K) (lo hi : K)
    (h : ∀ x ∈ v :: xs, lo ≤ x ∧ x ≤ hi) : lo ≤ Spec.smm n v xs ∧ Spec.smm n v xs ≤ hi := by
  unfold Spec.smm Spec.win
  exact median_hull _ (by rw [win_length]; exact hn) lo hi (fun x hx => h x (mem_win _ _ _ _ hx))

end Yata
