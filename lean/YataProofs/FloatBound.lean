/-
  Rounding-error bounds for the three running updates, under the standard model of floating-point arithmetic (every
  operation returns the exact result with relative error at most `u`; no overflow / underflow).  Each method has a float
  recursion, the exact one, a bound for one step (a chain of the facts of `Rounding`) and its growth over a run.

  SMA, `value += (x − prev) * divider`: after `t` steps within `t · (1+u)^t · u · M · (1 + 6(1+u)³/n)` of the exact mean,
  where `M` bounds the inputs (hence the exact means): linear in `t` as long as `t·u ≪ 1`, the shape of the allowance
  `C·ε·(t+n)·M` of DESIGN §3.2.

  EMA, `value = (x − value)·α + value`: the recursion is contractive, so the drift is bounded uniformly in the number of
  steps, by `c / (1 − ρ)` with `ρ = (1+u)(1 − α + γ·α)`, `c = (1+u)·γ·α·2M + u·M`, `γ = (1+u)³ − 1`, whenever `ρ < 1` (α not
  of the order of the unit round-off); for α = 2/(n+1) that is about `u·M·(n/2 + 7)`, whatever the length of the stream.

  WMA, `numerator ← fl(numerator + fl(L·x + total))` (`mul_add`: one rounding), `total ← fl(total + fl(prev − x))`:
  `total` is a running sum and drifts linearly; its error is added into `numerator` at every step, so the analysis that
  gives a linear bound for SMA gives only a quadratic one here (q = 1+u): `|total error| ≤ t·q^t·cT`,
  `|numerator error| ≤ t·q^t·cN + t²·q^(2t+2)·cT`.  This is why the allowance of DESIGN §3.2 (linear in t) is not guaranteed
  for WMA / HMA on very long streams (known finding `numeric-drift:hma`).
-/
import YataProofs.Numeric.SMA
import YataProofs.Numeric.WSum
import YataProofs.Rounding
import YataProofs.Scalar
namespace Yata.FloatBound
variable {K : Type} [Field K] [LinearOrder K] [IsStrictOrderedRing K]

/-- the float SMA recursion over (incoming, leaving) pairs; `d` is the stored `divider` -/
def smaFl (fl : K → K) (d : K) : K → List (K × K) → K
  | v, [] => v
  | v, (x, p) :: t => smaFl fl d (fl (v + fl (fl (x - p) * d))) t

def smaEx (n : K) : K → List (K × K) → K
  | e, [] => e
  | e, (x, p) :: t => smaEx n (e + (x - p) / n) t

def Bounded (n M : K) : K → List (K × K) → Prop
  | _, [] => True
  | e, (x, p) :: t => |x| ≤ M ∧ |p| ≤ M ∧ |e + (x - p) / n| ≤ M ∧ Bounded n M (e + (x - p) / n) t

/-- the (incoming, leaving) pairs of the model's run from the state `s`, which is advanced as `SMA.next` does -/
def pairsOfRun (s : SMA K) : List K → List (K × K)
  | [] => []
  | x :: t =>
    match s.window.push x with
    | .ok (prev, w) => (x, prev) :: pairsOfRun { s with value := s.value + (x - prev) * s.divider, window := w } t
    | .error _ => []

theorem mean_abs_le (n : Nat) (hn : 0 < n) (l : List K) (hl : l.length = n) (M : K) (h : ∀ x ∈ l, |x| ≤ M) :
    |Spec.mean n l| ≤ M := by
  have hs : (0 : K) < (List.replicate n (1 : K)).sum := by rw [sum_replicate_field, mul_one]; exact Nat.cast_pos.mpr hn
  have := wmean_hull (-M) M l (List.replicate n 1) (by simp [hl]) (fun x hx => abs_le.mp (h x hx))
    (fun w hw => List.eq_of_mem_replicate hw ▸ zero_le_one) hs
  rwa [wsum_ones _ _ hl, sum_replicate_field, mul_one, ← abs_le] at this

/-- tie to the model: its run is `smaEx` over its own pairs, and that chain is `Bounded` when history and inputs are -/
theorem model_run {P n : Nat} (hn : 0 < n) (M : K) :
    ∀ (xs : List K) (hist : List K) (s : SMA K), SMA.Inv P n hist s → (∀ x ∈ hist, |x| ≤ M) → (∀ x ∈ xs, |x| ≤ M) →
      (pairsOfRun s xs).length = xs.length ∧ Bounded (n : K) M s.value (pairsOfRun s xs) ∧
      ∃ outs s', runM SMA.next s xs = .ok (outs, s') ∧ s'.value = smaEx (n : K) s.value (pairsOfRun s xs) := by
  intro xs
  induction xs with
  | nil => intro hist s _ _ _; exact ⟨rfl, trivial, [], s, rfl, rfl⟩
  | cons x t ih =>
    intro hist s hinv hh hx
    obtain ⟨old, w', hp, -, rest, hl, hl'⟩ := hinv.tracks.slide hn x
    have hrest := hinv.tracks.rest_length hl
    obtain ⟨o, s1, hnext, hinv1, -⟩ := SMA.next_spec x hn hinv
    obtain rfl : s1 = { s with value := s.value + (x - old) * s.divider, window := w' } := by
      simp only [SMA.next, hp] at hnext
      exact ((Prod.mk.inj (Except.ok.inj hnext)).2).symm
    have hh1 : ∀ y ∈ hist ++ [x], |y| ≤ M := fun y hy =>
      (List.mem_append.1 hy).elim (hh y) fun hy => List.mem_singleton.1 hy ▸ hx x List.mem_cons_self
    obtain ⟨hlen, hb, outs, s', hr, hv⟩ := ih (hist ++ [x]) _ hinv1 hh1 fun y hy => hx y (List.mem_cons_of_mem _ hy)
    have hstep : s.value + (x - old) / (n : K) = s.value + (x - old) * s.divider := by rw [hinv.divider]; ring
    -- the exact value after the step is a mean of `n` bounded values
    have hbound : |s.value + (x - old) / (n : K)| ≤ M := by
      rw [hstep, show s.value + (x - old) * s.divider = _ from hinv1.value]
      exact mean_abs_le n hn _ (by rw [hl', List.length_append]; exact hrest) M fun y hy => hh1 y (List.mem_of_mem_drop hy)
    rw [show pairsOfRun s (x :: t) = (x, old) :: pairsOfRun { s with value := s.value + (x - old) * s.divider, window := w' } t
      by simp only [pairsOfRun, hp]]
    have hxM : |x| ≤ M := hx x List.mem_cons_self
    have hold : |old| ≤ M := hh old (List.mem_of_mem_drop (hl ▸ List.mem_cons_self))
    refine ⟨?_, ⟨hxM, hold, hbound, by rw [hstep]; exact hb⟩, o :: outs, s', ?_, ?_⟩
    · simp [hlen]
    · simp [runM, hnext, hr]
    · simp only [smaEx]; rw [hstep]; exact hv

section
variable (fl : K → K) (u : K) (hu : 0 ≤ u) (hfl : ∀ x, |fl x - x| ≤ u * |x|)
include hu hfl

/-- the increment `fl (fl (x − p)·d)` carries three roundings of a quantity of size `2M/n`, the sum one more of a quantity
    of size `M` -/
theorem sma_step_bound (n : K) (hn : 0 < n) (d : K) (hd : |d - 1 / n| ≤ u / n) (M : K) (v e x p : K)
    (hx : |x| ≤ M) (hp : |p| ≤ M) (he' : |e + (x - p) / n| ≤ M) :
    |fl (v + fl (fl (x - p) * d)) - (e + (x - p) / n)| ≤
      (1 + u) * |v - e| + u * M * (1 + 6 * (1 + u) ^ 3 / n) := by
  have hd' : |d - 1 / n| ≤ u * |1 / n| := by rwa [abs_of_pos (one_div_pos.2 hn), mul_one_div]
  have hb : |fl (fl (x - p) * d) - (x - p) / n| ≤ 3 * u * (1 + u) ^ 2 * (2 * M / n) := by
    have := fl_mul_rel hu hfl hd' (x - p)
    rw [mul_one_div, abs_div, abs_of_pos hn] at this
    exact this.trans (mul_le_mul (gamma_le hu) (div_le_div_of_nonneg_right (abs_sub_le_two hx hp) hn.le)
      (div_nonneg (abs_nonneg _) hn.le) (by positivity))
  exact (fl_add hu hfl hb he').trans_eq (by ring)

/-- the start `v` is as far from `e` as `k` steps can bring it (the induction moves one step from the list into `k`); `c` is
    what one step adds -/
theorem sma_run_bound (n : K) (hn : 0 < n) (d : K) (hd : |d - 1 / n| ≤ u / n) (M c : K)
    (hc : c = u * M * (1 + 6 * (1 + u) ^ 3 / n)) (steps : List (K × K)) (v e : K)
    (hb : Bounded n M e steps) (k : Nat) (h : |v - e| ≤ (k : K) * (1 + u) ^ k * c) :
    |smaFl fl d v steps - smaEx n e steps| ≤ ((k + steps.length : Nat) : K) * (1 + u) ^ (k + steps.length) * c := by
  subst hc
  induction steps generalizing v e k with
  | nil => exact h
  | cons xp t ih =>
    obtain ⟨x, p⟩ := xp
    obtain ⟨hx, hp, he', hrest⟩ := hb
    have hM : 0 ≤ M := (abs_nonneg x).trans hx
    have := ih _ _ hrest (k + 1) ((sma_step_bound fl u hu hfl n hn d hd M v e x p hx hp he').trans
      (lin_step (le_add_of_nonneg_right hu) (by positivity) k h))
    rwa [Nat.add_right_comm, Nat.add_assoc] at this

/-- the float EMA recursion with the stored constant `a`: difference, product and sum are each rounded.  (yata computes
    product and sum in one fused `mul_add`, which rounds once: the recursion here has one rounding more per step.) -/
def emaFl (fl : K → K) (a : K) : K → List K → K
  | v, [] => v
  | v, x :: t => emaFl fl a (fl (fl (fl (x - v) * a) + v)) t

/-- the increment `fl (fl (x − v)·a)` carries three roundings of `(x − v)·α`, `|x − v| ≤ 2M + |v − e|`; what is left of the
    old error is `(1 − α)·|v − e|`; the sum is rounded once more -/
theorem ema_step_bound (α : K) (h0 : 0 ≤ α) (h1 : α ≤ 1) (a : K) (ha : |a - α| ≤ u * α) (M : K) (v e x : K)
    (hx : |x| ≤ M) (he : |e| ≤ M) (he' : |(x - e) * α + e| ≤ M) :
    |fl (fl (fl (x - v) * a) + v) - ((x - e) * α + e)| ≤
      ((1 + u) * (1 - α + ((1 + u) ^ 3 - 1) * α)) * |v - e| + ((1 + u) * ((1 + u) ^ 3 - 1) * α * (2 * M) + u * M) := by
  have hw : |x - v| ≤ 2 * M + |v - e| := by
    calc |x - v| = |(x - e) - (v - e)| := by rw [sub_sub_sub_cancel_right]
      _ ≤ |x - e| + |v - e| := abs_sub _ _
      _ ≤ 2 * M + |v - e| := add_le_add (abs_sub_le_two hx he) le_rfl
  have ht : |fl (fl (x - v) * a) - (x - v) * α| ≤ ((1 + u) ^ 3 - 1) * α * (2 * M + |v - e|) := by
    have := fl_mul_rel hu hfl (by rwa [abs_of_nonneg h0] : |a - α| ≤ u * |α|) (x - v)
    rw [abs_mul, abs_of_nonneg h0, mul_comm |x - v| α, ← mul_assoc] at this
    exact this.trans (mul_le_mul_of_nonneg_left hw (mul_nonneg (gamma_nonneg hu) h0))
  have hs : |fl (fl (x - v) * a) + v - ((x - e) * α + e)| ≤
      ((1 + u) ^ 3 - 1) * α * (2 * M + |v - e|) + (1 - α) * |v - e| := by
    have e1 : fl (fl (x - v) * a) + v - ((x - e) * α + e) = (fl (fl (x - v) * a) - (x - v) * α) + (1 - α) * (v - e) := by ring
    rw [e1]
    refine (abs_add_le _ _).trans (add_le_add ht (le_of_eq ?_))
    rw [abs_mul, abs_of_nonneg (sub_nonneg.2 h1)]
  exact (fl_abs hu hfl hs he').trans_eq (by ring)

/-- `ρ`, `c` are the constants of one step, `B` any bound that a step maps below itself (`contract_step`) -/
theorem ema_run_bound (α : K) (h0 : 0 ≤ α) (h1 : α ≤ 1) (a : K) (ha : |a - α| ≤ u * α) (M ρ c : K)
    (hρ : ρ = (1 + u) * (1 - α + ((1 + u) ^ 3 - 1) * α)) (hc : c = (1 + u) * ((1 + u) ^ 3 - 1) * α * (2 * M) + u * M)
    (B : K) (hB : c ≤ (1 - ρ) * B) (xs : List K) (hx : ∀ x ∈ xs, |x| ≤ M) (v e : K) (he : |e| ≤ M) (hve : |v - e| ≤ B) :
    |emaFl fl a v xs - Spec.emaRec α e xs| ≤ B := by
  induction xs generalizing v e with
  | nil => exact hve
  | cons x t ih =>
    have hxM := hx x List.mem_cons_self
    have he' : |(x - e) * α + e| ≤ M := abs_le.2 (lerp_between h0 h1 (abs_le.1 hxM) (abs_le.1 he))
    have hρ0 : 0 ≤ ρ := hρ ▸
      mul_nonneg (add_nonneg zero_le_one hu) (add_nonneg (sub_nonneg.2 h1) (mul_nonneg (gamma_nonneg hu) h0))
    have step := ema_step_bound fl u hu hfl α h0 h1 a ha M v e x hxM he he'
    rw [← hρ, ← hc] at step
    exact ih (fun y hy => hx y (List.mem_cons_of_mem _ hy)) _ _ he' (step.trans (contract_step hρ0 hve hB))

/-- the float state (numerator, total) after the (incoming, leaving) pairs; `L·x + T` is rounded once, as yata's `mul_add` -/
def wmaFl (fl : K → K) (L : K) : K × K → List (K × K) → K × K
  | s, [] => s
  | (N, T), (x, p) :: t => wmaFl fl L (fl (N + fl (L * x + T)), fl (T + fl (p - x))) t

def wmaEx (L : K) : K × K → List (K × K) → K × K
  | s, [] => s
  | (N, T), (x, p) :: t => wmaEx L (N + (L * x + T), T + (p - x)) t

/-- inputs bounded by `M`, exact totals by `A`, exact numerators by `B`, along the whole run -/
def BoundedW (L M A B : K) : K × K → List (K × K) → Prop
  | _, [] => True
  | (N, T), (x, p) :: t =>
    |x| ≤ M ∧ |p| ≤ M ∧ |T| ≤ A ∧ |T + (p - x)| ≤ A ∧ |N + (L * x + T)| ≤ B ∧
      BoundedW L M A B (N + (L * x + T), T + (p - x)) t

/-- `total` takes the rounding of `p − x` (size `2M`) and of the sum (size `A`); `numerator` takes the error of `total` once
    more, through two roundings -/
theorem wma_step_bound (L M A B : K) (hL : 0 ≤ L) (N T Ne Te x p : K)
    (hx : |x| ≤ M) (hp : |p| ≤ M) (hT : |Te| ≤ A) (hT' : |Te + (p - x)| ≤ A)
    (hN' : |Ne + (L * x + Te)| ≤ B) :
    |fl (T + fl (p - x)) - (Te + (p - x))| ≤ (1 + u) * |T - Te| + (u * A + 2 * u * M * (1 + u)) ∧
    |fl (N + fl (L * x + T)) - (Ne + (L * x + Te))| ≤
      (1 + u) * |N - Ne| + ((1 + u) * u * (L * M + A) + u * B + (1 + u) ^ 2 * |T - Te|) := by
  have hd : |fl (p - x) - (p - x)| ≤ u * (2 * M) := (hfl _).trans (mul_le_mul_of_nonneg_left (abs_sub_le_two hp hx) hu)
  have hr : |L * x + Te| ≤ L * M + A :=
    (abs_add_le _ _).trans (add_le_add ((abs_mul L x).trans_le (by rw [abs_of_nonneg hL]; gcongr)) hT)
  have hg : |fl (L * x + T) - (L * x + Te)| ≤ (1 + u) * |T - Te| + u * (L * M + A) :=
    fl_abs hu hfl (le_of_eq (by rw [add_sub_add_left_eq_sub])) hr
  exact ⟨(fl_add hu hfl hd hT').trans_eq (by ring), (fl_add hu hfl hg hN').trans_eq (by ring)⟩

/-- linear drift of `total`; over a run of at most `n` steps that drift is a disturbance of size `q²·n·qⁿ·cT` in the
    recurrence of `numerator`, whose drift is then linear with that larger constant, i.e. quadratic in `n` -/
theorem wma_run_bound (L M A B : K) (hL : 0 ≤ L)
    (cT cN : K) (hcT : cT = u * A + 2 * u * M * (1 + u)) (hcN : cN = (1 + u) * u * (L * M + A) + u * B)
    (hcT0 : 0 ≤ cT) (hcN0 : 0 ≤ cN) (n : Nat) :
    ∀ (steps : List (K × K)) (N T Ne Te : K) (k : Nat), k + steps.length ≤ n → BoundedW L M A B (Ne, Te) steps →
      |T - Te| ≤ (k : K) * (1 + u) ^ k * cT →
      |N - Ne| ≤ (k : K) * (1 + u) ^ k * (cN + (1 + u) ^ 2 * ((n : K) * (1 + u) ^ n * cT)) →
      |(wmaFl fl L (N, T) steps).2 - (wmaEx L (Ne, Te) steps).2| ≤
        ((k + steps.length : Nat) : K) * (1 + u) ^ (k + steps.length) * cT ∧
      |(wmaFl fl L (N, T) steps).1 - (wmaEx L (Ne, Te) steps).1| ≤
        ((k + steps.length : Nat) : K) * (1 + u) ^ (k + steps.length) *
          (cN + (1 + u) ^ 2 * ((n : K) * (1 + u) ^ n * cT)) := by
  intro steps
  induction steps with
  | nil => intro N T Ne Te k _ _ h1 h2; exact ⟨h1, h2⟩
  | cons xp t ih =>
    intro N T Ne Te k hk hb h1 h2
    obtain ⟨x, p⟩ := xp
    obtain ⟨hx, hp, hTe, hTe', hNe', hrest⟩ := hb
    obtain ⟨s1, s2⟩ := wma_step_bound fl u hu hfl L M A B hL N T Ne Te x p hx hp hTe hTe' hNe'
    rw [← hcT] at s1
    rw [← hcN] at s2
    rw [List.length_cons, ← Nat.add_assoc, Nat.add_right_comm] at hk ⊢
    have hq : 1 ≤ 1 + u := le_add_of_nonneg_right hu
    have hT : |T - Te| ≤ (n : K) * (1 + u) ^ n * cT := h1.trans (lin_mono hq hcT0 (by omega))
    have hc : 0 ≤ cN + (1 + u) ^ 2 * ((n : K) * (1 + u) ^ n * cT) :=
      add_nonneg hcN0 (mul_nonneg (sq_nonneg _) ((abs_nonneg _).trans hT))
    exact ih _ _ _ _ (k + 1) hk hrest (s1.trans (lin_step hq hcT0 k h1))
      ((s2.trans (add_le_add le_rfl (add_le_add le_rfl (mul_le_mul_of_nonneg_left hT (sq_nonneg _))))).trans
        (lin_step hq hc k h2))

end

end Yata.FloatBound
