/-
  Vidya after the `fix:` that clamps |CMO| to 1: one step is a convex combination of the input and the previous output
  whatever the two never-recomputed running sums contain, so rounding residue cannot drive the output out of the range
  of the data.
-/
import YataModel.Methods.Averages
import YataProofs.Runner
import YataProofs.Scalar
namespace Yata
variable {K : Type} [Field K] [LinearOrder K] [IsStrictOrderedRing K]

theorem smin_sabs_range (q : K) : 0 ≤ smin (sabs q) 1 ∧ smin (sabs q) 1 ≤ 1 := by
  rw [smin_eq_min, sabs_eq_abs]
  exact ⟨le_min (abs_nonneg q) zero_le_one, min_le_right _ _⟩

theorem Vidya.next_between [DecidableEq K] (s : Vidya K) (x o : K) (s' : Vidya K) (hf0 : 0 ≤ s.f) (hf1 : s.f ≤ 1)
    (h : s.next x = .ok (o, s')) :
    min x s.last_output ≤ o ∧ o ≤ max x s.last_output ∧ s'.last_output = o ∧ s'.f = s.f := by
  unfold Vidya.next at h
  dsimp only at h
  split at h
  · cases h
  · cases h
    have hx : min x s.last_output ≤ x ∧ x ≤ max x s.last_output := ⟨min_le_left _ _, le_max_left _ _⟩
    -- the two bounds are kept together: one case split on the guard of the output gives both
    refine and_assoc.1 ⟨?_, rfl, rfl⟩
    split
    · exact convex_between (mul_nonneg hf0 (smin_sabs_range _).1)
        (mul_le_one₀ hf1 (smin_sabs_range _).1 (smin_sabs_range _).2) hx ⟨min_le_right _ _, le_max_right _ _⟩
    · exact hx

theorem Vidya.run_hull_any_state [DecidableEq K] (lo hi : K) :
    ∀ (xs : List K) (s : Vidya K) (os : List K) (s' : Vidya K), 0 ≤ s.f → s.f ≤ 1 →
      lo ≤ s.last_output → s.last_output ≤ hi → (∀ x ∈ xs, lo ≤ x ∧ x ≤ hi) →
      runM Vidya.next s xs = .ok (os, s') → ∀ o ∈ os, lo ≤ o ∧ o ≤ hi := by
  intro xs
  induction xs with
  | nil => intro s os s' _ _ _ _ _ h; cases h; simp
  | cons x xs ih =>
    intro s os s' hf0 hf1 hl hh hx h
    obtain ⟨o, s1, os1, hn, hr, rfl⟩ := (runM_cons_ok ..).1 h
    obtain ⟨h1, h2, h3, h4⟩ := Vidya.next_between s x o s1 hf0 hf1 hn
    have hxr := hx x List.mem_cons_self
    have ho : lo ≤ o ∧ o ≤ hi := ⟨(le_min hxr.1 hl).trans h1, h2.trans (max_le hxr.2 hh)⟩
    exact List.forall_mem_cons.2 ⟨ho, ih s1 os1 s' (h4 ▸ hf0) (h4 ▸ hf1) (h3 ▸ ho.1) (h3 ▸ ho.2)
      (fun y hy => hx y (List.mem_cons_of_mem _ hy)) hr⟩

end Yata
