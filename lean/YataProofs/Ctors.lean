/-
  Constructors are total over the whole parameter domain: for every value `0 ≤ length ≤ P` of
  PeriodType (`P = PeriodType::MAX`) `new` returns `Ok` or `Err`, never a panic / overflow, and it
  returns `Err` on the documented too-small lengths and on `PeriodType::MAX`.
-/
import YataModel
import YataProofs.Window
import Mathlib.Data.Nat.Sqrt
set_option linter.unusedSectionVars false
namespace Yata
variable {α : Type}
variable [Zero α] [One α] [Add α] [Sub α] [Mul α] [Div α] [Neg α] [NatCast α]
variable [LT α] [DecidableLT α] [LE α] [DecidableLE α]

def Res.noPanic {β : Type} : Res β → Prop
  | .panic _ => False
  | _ => True

def Res.isErr {β : Type} : Res β → Prop
  | .err _ => True
  | _ => False

namespace Res
variable {β γ : Type}

theorem noPanic_bind {r : Res β} {f : β → Res γ} (hr : r.noPanic) (hf : ∀ v, (f v).noPanic) :
    (r.bind f).noPanic := by
  cases r with
  | ok v => exact hf v
  | err e => trivial
  | panic p => exact hr

theorem isErr_bind {r : Res β} {f : β → Res γ} (hr : r.isErr) : (r.bind f).isErr := by
  cases r with
  | err e => trivial
  | ok v => exact hr.elim
  | panic p => exact hr.elim

theorem noPanic_of_isErr {r : Res β} (h : r.isErr) : r.noPanic := by
  cases r with
  | panic p => exact h
  | _ => trivial

theorem guard_total {c : Prop} [Decidable c] {e : Err} {r : Res β} (h : ¬ c → r.noPanic) :
    (if c then .err e else r).noPanic ∧ (c → (if c then Res.err e else r).isErr) :=
  ⟨by split; exacts [trivial, h ‹_›], fun hc => by rw [if_pos hc]; trivial⟩

end Res

theorem window_noPanic {β : Type} {P n : Nat} (v : β) (h : n ≤ P - 1) : (Res.ofExcept (Window.new P n v)).noPanic := by
  simp [Window.new, h, Res.ofExcept, Res.noPanic]

/-- the shape of most constructors: a guard on the length, one window, the remaining fields -/
theorem window_guard_total {β γ : Type} {c : Prop} [Decidable c] {e : Err} {P n : Nat} (v : β) (f : Window β → γ)
    (h : ¬ c → n ≤ P - 1) :
    (if c then .err e else (Res.ofExcept (Window.new P n v)).bind fun w => .ok (f w)).noPanic ∧
    (c → (if c then Res.err e else (Res.ofExcept (Window.new P n v)).bind fun w => .ok (f w)).isErr) :=
  Res.guard_total fun hc => Res.noPanic_bind (window_noPanic v (h hc)) fun _ => trivial

theorem noPanic_of_guard {β : Type} {P n : Nat} (r : Res β) (hP : 2 ≤ P) (hn : n ≤ P)
    (hbad : n = 0 ∨ n = P → r.isErr) (hgood : 0 < n → n ≤ P - 1 → r.noPanic) : r.noPanic :=
  if h : n = 0 ∨ n = P then Res.noPanic_of_isErr (hbad h) else hgood (by omega) (by omega)

section
variable (P n : Nat) (hn : n ≤ P) (v : α)
include hn

theorem SMA.new_total : (SMA.new P n v).noPanic ∧ (n = 0 ∨ n = P → (SMA.new P n v).isErr) :=
  window_guard_total v _ (by omega)

theorem WMA.new_total : (WMA.new P n v).noPanic ∧ (n = 0 ∨ n = P → (WMA.new P n v).isErr) :=
  window_guard_total v _ (by omega)

theorem EMA.new_total : (EMA.new P n v).noPanic ∧ (n = 0 ∨ n = P → (EMA.new P n v).isErr) :=
  Res.guard_total fun _ => by rw [chkAdd_ok (by omega)]; trivial

theorem DMA.new_total : (DMA.new P n v).noPanic ∧ (n = 0 ∨ n = P → (DMA.new P n v).isErr) :=
  have e := (EMA.new_total P n hn v).1
  Res.guard_total fun _ => Res.noPanic_bind e fun _ => Res.noPanic_bind e fun _ => trivial

theorem TMA.new_total : (TMA.new P n v).noPanic ∧ (n = 0 ∨ n = P → (TMA.new P n v).isErr) :=
  Res.guard_total fun _ => Res.noPanic_bind (DMA.new_total P n hn v).1 fun _ =>
    Res.noPanic_bind (EMA.new_total P n hn v).1 fun _ => trivial

theorem DEMA.new_total : (DEMA.new P n v).noPanic ∧ (n = 0 ∨ n = P → (DEMA.new P n v).isErr) :=
  have e := (EMA.new_total P n hn v).1
  Res.guard_total fun _ => Res.noPanic_bind e fun _ => Res.noPanic_bind e fun _ => trivial

theorem TEMA.new_total : (TEMA.new P n v).noPanic ∧ (n = 0 ∨ n = P → (TEMA.new P n v).isErr) :=
  have e := (EMA.new_total P n hn v).1
  Res.guard_total fun _ => Res.noPanic_bind e fun _ => Res.noPanic_bind e fun _ => Res.noPanic_bind e fun _ => trivial

omit hn in
theorem RMA.new_total : (RMA.new P n v).noPanic ∧ (n = 0 → (RMA.new P n v).isErr) :=
  Res.guard_total fun _ => trivial

omit hn in
/-- the inner EMA has length `2n − 1`: past the guard neither the product nor the difference overflows -/
theorem WSMA.new_total : (WSMA.new P n v).noPanic ∧ (n = 0 ∨ n > P / 2 → (WSMA.new P n v).isErr) := by
  unfold WSMA.new
  split_ifs with h1 h0
  · exact ⟨trivial, fun _ => trivial⟩
  · exact ⟨trivial, fun _ => trivial⟩
  · rw [chkMul_ok (by omega)]
    dsimp only
    rw [chkSub_ok (by omega)]
    exact ⟨Res.noPanic_bind (EMA.new_total P (n * 2 - 1) (by omega) v).1 fun _ => trivial, fun h => by omega⟩

theorem SWMA.new_total : (SWMA.new P n v).noPanic ∧ (n = 0 ∨ n = P → (SWMA.new P n v).isErr) :=
  Res.guard_total fun _ => by
    rw [chkAdd_ok (by omega)]
    exact Res.noPanic_bind (window_noPanic v (by omega)) fun _ =>
      Res.noPanic_bind (window_noPanic v (by omega)) fun _ => trivial

theorem TRIMA.new_total : (TRIMA.new P n v).noPanic ∧ (n = 0 ∨ n = P → (TRIMA.new P n v).isErr) :=
  have s := SMA.new_total P n hn v
  ⟨Res.noPanic_bind s.1 fun _ => Res.noPanic_bind s.1 fun _ => trivial, fun h => Res.isErr_bind (s.2 h)⟩

theorem LinReg.new_total : (LinReg.new P n v).noPanic ∧ (n = 0 ∨ n = 1 ∨ n = P → (LinReg.new P n v).isErr) :=
  window_guard_total v _ (by omega)

theorem StDev.new_total : (StDev.new P n v).noPanic ∧ (n = 0 ∨ n = 1 ∨ n = P → (StDev.new P n v).isErr) :=
  window_guard_total v _ (by omega)

theorem Integral.new_total : (Integral.new P n v).noPanic ∧ (n = P → (Integral.new P n v).isErr) :=
  window_guard_total v _ (by omega)

theorem Derivative.new_total : (Derivative.new P n v).noPanic ∧ (n = 0 ∨ n = P → (Derivative.new P n v).isErr) :=
  window_guard_total v _ (by omega)

theorem Momentum.new_total : (Momentum.new P n v).noPanic ∧ (n = 0 ∨ n = P → (Momentum.new P n v).isErr) :=
  window_guard_total v _ (by omega)

theorem RateOfChange.new_total : (RateOfChange.new P n v).noPanic ∧ (n = 0 ∨ n = P → (RateOfChange.new P n v).isErr) :=
  window_guard_total v _ (by omega)

theorem LinearVolatility.new_total :
    (LinearVolatility.new P n v).noPanic ∧ (n = 0 ∨ n = P → (LinearVolatility.new P n v).isErr) :=
  window_guard_total 0 _ (by omega)

theorem Vidya.new_total [DecidableEq α] : (Vidya.new P n v).noPanic ∧ (n = 0 ∨ n = P → (Vidya.new P n v).isErr) :=
  window_guard_total 0 _ (by omega)

/-- the three inner WMAs have lengths `n/2`, `n` and `⌊√n⌋`, none above `n` -/
theorem HMA.new_total : (HMA.new P n v).noPanic ∧ (n = 0 ∨ n = 1 ∨ n = P → (HMA.new P n v).isErr) :=
  Res.guard_total fun _ =>
    Res.noPanic_bind (WMA.new_total P (n / 2) (by omega) v).1 fun _ =>
    Res.noPanic_bind (WMA.new_total P n hn v).1 fun _ =>
    Res.noPanic_bind (WMA.new_total P n.sqrt (Nat.le_trans (Nat.sqrt_le_self n) hn) v).1 fun _ => trivial

end

/-- the body that `UpperReversalSignal.new` and `LowerReversalSignal.new` share. Past the guard `l + r < P − 1`, so neither
    addition overflows and the window of `l + r + 1` fits. -/
theorem reversal_new_total {β γ : Type} (P l r : Nat) (v : β) (f : Window β → γ) :
    (if l = 0 ∨ r = 0 ∨ satAdd P l r ≥ P - 1 then Res.err .wrongMethodParameters
     else match chkAdd P l r with
      | .error p => .panic p
      | .ok lr => match chkAdd P lr 1 with
        | .error p => .panic p
        | .ok n => (Res.ofExcept (Window.new P n v)).bind fun w => .ok (f w)).noPanic :=
  (Res.guard_total fun h => by
    have hs : l + r < P - 1 := by rw [satAdd_eq_min] at h; omega
    rw [chkAdd_ok (by omega)]
    show Res.noPanic (match chkAdd P (l + r) 1 with | .error p => .panic p | .ok n => _)
    rw [chkAdd_ok (by omega)]
    exact Res.noPanic_bind (window_noPanic v (by omega)) fun _ => trivial).1

theorem UpperReversalSignal.new_total (P l r : Nat) (v : α) : (UpperReversalSignal.new P l r v).noPanic :=
  reversal_new_total P l r v _

theorem LowerReversalSignal.new_total (P l r : Nat) (v : α) : (LowerReversalSignal.new P l r v).noPanic :=
  reversal_new_total P l r v _

theorem TSI.new_total (P s l : Nat) (hs : s ≤ P) (hl : l ≤ P) (v : α) :
    (TSI.new P s l v).noPanic :=
  have a := (EMA.new_total P l hl (0 : α)).1
  have b := (EMA.new_total P s hs (0 : α)).1
  Res.noPanic_bind a fun _ => Res.noPanic_bind b fun _ => Res.noPanic_bind a fun _ => Res.noPanic_bind b fun _ => trivial

end Yata
