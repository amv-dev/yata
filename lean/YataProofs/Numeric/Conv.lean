/-
  Conv: the weighted mean of the last `n` values with the given weights (oldest → newest), normalised by their sum.
-/
import YataProofs.Numeric.Common
namespace Yata
variable {K : Type} [Field K]

namespace Conv

structure Inv (P : Nat) (ws hist : List K) (s : Conv K) : Prop where
  tracks : Tracks P ws.length s.window hist
  weights : s.weights = ws
  invert : s.wsum_invert = 1 / ws.sum

theorem new_spec {P : Nat} (ws : List K) (v : K) (h1 : 1 ≤ ws.length) (hn : ws.length ≤ P - 1) :
    ∃ s, Conv.new P ws v = .ok s ∧ Inv P ws (history ws.length v []) s := by
  obtain ⟨w, hw, ht⟩ := Tracks.winNew (P := P) v hn
  simp only [Conv.new, h1, hn, hw, Res.bind]
  exact ⟨_, rfl, ht, rfl, by simp [foldl_add_eq_sum]⟩

theorem next_spec {P : Nat} {ws hist : List K} {s : Conv K} (x : K) (h1 : 1 ≤ ws.length) (h : Inv P ws hist s) :
    ∃ o s', s.next x = .ok (o, s') ∧ Inv P ws (hist ++ [x]) s' ∧
      o = (List.zipWith (fun x w => x * w) (lastN ws.length (hist ++ [x])) ws).sum / ws.sum := by
  obtain ⟨_, w', hp, ht', -⟩ := h.tracks.slide h1 x
  have hlen : (Window.toList w').length = ws.length := by rw [ht'.contents, lastN_length ht'.len]
  simp only [Conv.next, hp, Conv.peek, Window.iterCollect_start ht'.inv, h.weights, h.invert]
  refine ⟨_, _, rfl, ⟨ht', rfl, rfl⟩, ?_⟩
  -- the code pairs the window newest first with the reversed weights: the same products in the opposite order
  rw [Conv.dot, foldl_add_eq_sum, zero_add, ← List.reverse_zipWith hlen, List.sum_reverse, ht'.contents, mul_one_div]

end Conv
end Yata
