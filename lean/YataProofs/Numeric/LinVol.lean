/-
  LinearVolatility: the running value is the sum of the absolute successive differences of the last
  `n` steps (zeros before the start), hence never negative.
-/
import YataProofs.Numeric.Common
import YataProofs.Scalar
namespace Yata
variable {K : Type} [Field K] [LinearOrder K]

theorem absDiffs_eq_map (p : K) (l : List K) : Spec.absDiffs p l = (Spec.changes p l).map sabs := by
  induction l generalizing p with
  | nil => rfl
  | cons a t ih => simp only [Spec.absDiffs, Spec.changes, List.map_cons, ih]

theorem absDiffs_snoc (p : K) (l : List K) (x : K) :
    Spec.absDiffs p (l ++ [x]) = Spec.absDiffs p l ++ [sabs (x - lastOr p l)] := by
  rw [absDiffs_eq_map, changes_snoc, List.map_append, absDiffs_eq_map]; rfl

namespace LinearVolatility

structure Inv (P n : Nat) (v : K) (xs : List K) (s : LinearVolatility K) : Prop where
  tracks : Tracks P n s.window (history n 0 (Spec.absDiffs v xs))
  prev : s.prev_value = lastOr v xs
  vol : s.volatility = (lastN n (history n 0 (Spec.absDiffs v xs))).sum

theorem new_spec {P n : Nat} (v : K) (hn0 : 0 < n) (hn : n ≤ P - 1) :
    ∃ s, LinearVolatility.new P n v = .ok s ∧ Inv P n v [] s := by
  obtain ⟨w, hw, ht⟩ := Tracks.winNew (P := P) (0 : K) hn
  simp only [LinearVolatility.new, not_zero_or_max hn0 hn, hw, Res.bind, if_false]
  exact ⟨_, rfl, ht, rfl, by simp [Spec.absDiffs, lastN_history_nil]⟩

theorem next_spec {P n : Nat} {v : K} {xs : List K} {s : LinearVolatility K} (x : K) (hn0 : 0 < n) (h : Inv P n v xs s) :
    ∃ o s', s.next x = .ok (o, s') ∧ Inv P n v (xs ++ [x]) s' ∧ o = Spec.linearVolatility n v (xs ++ [x]) := by
  obtain ⟨old, w', hp, ht', rest, hl, hl'⟩ := h.tracks.slide hn0 (sabs (x - s.prev_value))
  rw [h.prev, ← history_snoc, ← absDiffs_snoc] at ht' hl'
  have hsum : s.volatility + (sabs (x - s.prev_value) - old) =
      (lastN n (history n 0 (Spec.absDiffs v (xs ++ [x])))).sum := by
    rw [h.vol, hl, hl', h.prev, sum_slide old]
  simp only [LinearVolatility.next, hp]
  exact ⟨_, _, rfl, ⟨ht', (lastOr_snoc v xs x).symm, hsum⟩, hsum⟩

end LinearVolatility

variable [IsStrictOrderedRing K]

theorem absDiffs_nonneg (p : K) (l : List K) : ∀ y ∈ Spec.absDiffs p l, 0 ≤ y := by
  rw [absDiffs_eq_map]
  exact List.forall_mem_map.mpr fun c _ => by rw [sabs_eq_abs]; exact abs_nonneg c

theorem linearVolatility_nonneg (n : Nat) (v : K) (xs : List K) : 0 ≤ Spec.linearVolatility n v xs := by
  refine List.sum_nonneg fun y hy => ?_
  rcases List.mem_append.mp (List.mem_of_mem_drop hy) with h | h
  · rw [(List.mem_replicate.mp h).2]
  · exact absDiffs_nonneg _ _ y h

end Yata
