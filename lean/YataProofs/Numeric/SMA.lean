/-
  SMA: the incremental machine equals the arithmetic mean of the last `n` values.
-/
import YataProofs.Numeric.Common
namespace Yata
variable {K : Type} [Field K] [LinearOrder K] [IsStrictOrderedRing K]

namespace SMA

/-- state invariant after the history `hist` (= `replicate n v ++ inputs so far`) -/
structure Inv (P n : Nat) (hist : List K) (s : SMA K) : Prop where
  tracks : Tracks P n s.window hist
  divider : s.divider = 1 / (n : K)
  value : s.value = Spec.mean n (lastN n hist)

theorem new_spec {P n : Nat} (v : K) (hn0 : 0 < n) (hn : n ≤ P - 1) :
    ∃ s, SMA.new P n v = .ok s ∧ Inv P n (history n v []) s := by
  obtain ⟨w, hw, ht⟩ := Tracks.winNew (P := P) v hn
  simp only [SMA.new, not_zero_or_max hn0 hn, hw, Res.bind, if_false]
  refine ⟨_, rfl, { tracks := ht, divider := rfl, value := ?_ }⟩
  have hnK : (n : K) ≠ 0 := Nat.cast_ne_zero.mpr (Nat.pos_iff_ne_zero.mp hn0)
  rw [lastN_history_nil, Spec.mean, sum_replicate_field, mul_div_cancel_left₀ v hnK]

theorem next_spec {P n : Nat} {hist : List K} {s : SMA K} (x : K) (hn0 : 0 < n) (h : Inv P n hist s) :
    ∃ o s', s.next x = .ok (o, s') ∧ Inv P n (hist ++ [x]) s' ∧ o = Spec.mean n (lastN n (hist ++ [x])) := by
  obtain ⟨old, w', hp, ht', rest, hl, hl'⟩ := h.tracks.slide hn0 x
  have hval : s.value + (x - old) * s.divider = Spec.mean n (lastN n (hist ++ [x])) := by
    rw [h.value, h.divider, hl, hl', Spec.mean, Spec.mean, sum_slide old]; ring
  simp only [SMA.next, hp]
  exact ⟨_, _, rfl, ⟨ht', h.divider, hval⟩, hval⟩

theorem next_sma {P n : Nat} {v : K} {h : List K} {s : SMA K} (x : K) (hn0 : 0 < n) (hi : Inv P n (history n v h) s) :
    ∃ s', s.next x = .ok (Spec.sma n v (h ++ [x]), s') ∧ Inv P n (history n v (h ++ [x])) s' := by
  obtain ⟨o, s', hnx, hi', ho⟩ := next_spec x hn0 hi
  rw [← history_snoc] at hi' ho
  subst ho
  exact ⟨s', hnx, hi'⟩

theorem run_spec {P n : Nat} (v : K) (hn0 : 0 < n) (hn : n ≤ P - 1) (xs : List K) :
    ∃ s0 outs s', SMA.new P n v = .ok s0 ∧ runM SMA.next s0 xs = .ok (outs, s') ∧
      outs.length = xs.length ∧ ∀ i (hi : i < outs.length), outs[i] = Spec.sma n v (xs.take (i + 1)) :=
  windowed_spec v _ _ (Inv P n) (Spec.mean n) (new_spec v hn0 hn) (fun _ _ x h => next_spec x hn0 h) xs

end SMA

theorem Spec.mean_nonneg (n : Nat) (l : List K) (h : ∀ y ∈ l, 0 ≤ y) : 0 ≤ Spec.mean n l :=
  div_nonneg (List.sum_nonneg h) (Nat.cast_nonneg n)

end Yata
