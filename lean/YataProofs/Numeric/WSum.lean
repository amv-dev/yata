/-
  Weighted sums.  `wsum l ws = Σ lᵢ·wsᵢ` pairs a window with a list of weights: linear in the values, bounded by the
  hull of the values times `Σ ws` when the weights are non-negative.  `wsumIdx w off l = Σ w(off+i)·lᵢ` is the case
  where the weight is a function of the position (the numerators of WMA, SWMA and LinReg): how it changes when the
  window slides by one, and its value on a constant window (an arithmetic series when `w` rises by a fixed step).
-/
import YataProofs.Numeric.Common
namespace Yata

section
variable {K : Type} [Field K]

def wsum (l ws : List K) : K := (List.zipWith (fun x w => x * w) l ws).sum

theorem wsum_affine (a b : K) (l ws : List K) (h : l.length = ws.length) :
    wsum (l.map fun x => a * x + b) ws = a * wsum l ws + b * ws.sum := by
  unfold wsum
  induction l generalizing ws with
  | nil => cases ws <;> simp_all
  | cons x t ih =>
    cases ws with
    | nil => simp at h
    | cons w u =>
      simp only [List.map_cons, List.zipWith_cons_cons, List.sum_cons, ih u (by simpa using h)]
      ring

theorem wsum_add (l m ws : List K) (h : l.length = m.length) :
    wsum (List.zipWith (· + ·) l m) ws = wsum l ws + wsum m ws := by
  unfold wsum
  induction l generalizing m ws with
  | nil => cases m <;> simp_all
  | cons x t ih =>
    cases m with
    | nil => simp at h
    | cons y u =>
      cases ws with
      | nil => simp
      | cons w v =>
        simp only [List.zipWith_cons_cons, List.sum_cons, ih u v (by simpa using h)]
        ring

theorem wsum_ones (l : List K) (n : Nat) (h : l.length = n) : wsum l (List.replicate n 1) = l.sum := by
  subst h
  unfold wsum
  induction l with
  | nil => rfl
  | cons x t ih => simp only [List.length_cons, List.replicate_succ, List.zipWith_cons_cons, List.sum_cons, ih, mul_one]

theorem wsum_replicate (v : K) (ws : List K) : wsum (List.replicate ws.length v) ws = v * ws.sum := by
  unfold wsum
  induction ws with
  | nil => simp
  | cons w u ih => simp only [List.length_cons, List.replicate_succ, List.zipWith_cons_cons, List.sum_cons, ih, mul_add]

def wsumIdx (w : Nat → K) (off : Nat) (l : List K) : K := wsum l ((List.range' off l.length).map w)

theorem wsumIdx_nil (w : Nat → K) (off : Nat) : wsumIdx w off [] = 0 := rfl

theorem wsumIdx_cons (w : Nat → K) (off : Nat) (a : K) (t : List K) :
    wsumIdx w off (a :: t) = w off * a + wsumIdx w (off + 1) t := by
  simp [wsumIdx, wsum, List.range'_succ, mul_comm]

/-- the form in which `Spec.weighted` and `Spec.linreg` write it -/
theorem sum_zipIdx (w : Nat → K) (l : List K) (k : Nat) :
    ((l.zipIdx k).map fun p => w p.2 * p.1).sum = wsumIdx w k l := by
  induction l generalizing k with
  | nil => rfl
  | cons x t ih => rw [wsumIdx_cons, ← ih]; simp [List.zipIdx_cons]

theorem weighted_eq_wsumIdx (w : Nat → K) (l : List K) :
    Spec.weighted w l = wsumIdx w 0 l / ((List.range l.length).map w).sum := by
  unfold Spec.weighted; rw [sum_zipIdx]

theorem wsumIdx_append (w : Nat → K) (off : Nat) (l m : List K) :
    wsumIdx w off (l ++ m) = wsumIdx w off l + wsumIdx w (off + l.length) m := by
  induction l generalizing off with
  | nil => simp [wsumIdx_nil]
  | cons a t ih =>
    rw [List.cons_append, wsumIdx_cons, wsumIdx_cons, ih (off + 1), List.length_cons, Nat.add_right_comm, Nat.add_assoc,
      add_assoc]

theorem wsumIdx_congr (w w' : Nat → K) (off : Nat) (l : List K) (h : ∀ i, off ≤ i → i < off + l.length → w i = w' i) :
    wsumIdx w off l = wsumIdx w' off l := by
  induction l generalizing off with
  | nil => rfl
  | cons a t ih =>
    rw [wsumIdx_cons, wsumIdx_cons, h off (le_refl _) (by simp), ih (off + 1)]
    intro i h1 h2
    exact h i (by omega) (by simp only [List.length_cons]; omega)

theorem wsumIdx_shift (w : Nat → K) (off : Nat) (l : List K) :
    wsumIdx (fun i => w (i + 1)) off l = wsumIdx w (off + 1) l := by
  induction l generalizing off with
  | nil => rfl
  | cons a t ih => rw [wsumIdx_cons, wsumIdx_cons, ih]

theorem wsumIdx_succ_of_step (w : Nat → K) (a : K) (hw : ∀ i, w (i + 1) = w i + a) (off : Nat) (l : List K) :
    wsumIdx w (off + 1) l = wsumIdx w off l + a * l.sum := by
  induction l generalizing off with
  | nil => simp [wsumIdx_nil]
  | cons y t ih => rw [wsumIdx_cons, wsumIdx_cons, ih, hw, List.sum_cons]; ring

theorem wsumIdx_slide (w : Nat → K) (a : K) (hw : ∀ i, w (i + 1) = w i + a) (off : Nat) (old x : K) (rest : List K) :
    wsumIdx w off (rest ++ [x]) =
      wsumIdx w off (old :: rest) - w off * old - a * rest.sum + w (off + rest.length) * x := by
  rw [wsumIdx_append, wsumIdx_cons, wsumIdx_cons, wsumIdx_nil, wsumIdx_succ_of_step w a hw]; ring

theorem wsumIdx_replicate (w : Nat → K) (off m : Nat) (v : K) :
    wsumIdx w off (List.replicate m v) = v * ((List.range' off m).map w).sum := by
  have h := wsum_replicate v ((List.range' off m).map w)
  rw [List.length_map, List.length_range'] at h
  rw [wsumIdx, List.length_replicate, h]

theorem two_mul_sum_step (w : Nat → K) (a : K) (hw : ∀ i, w (i + 1) = w i + a) (off m : Nat) :
    2 * ((List.range' off m).map w).sum = (m : K) * (2 * w off + a * ((m : K) - 1)) := by
  induction m generalizing off with
  | zero => simp
  | succ k ih => rw [List.range'_succ, List.map_cons, List.sum_cons, mul_add, ih (off + 1), hw]; push_cast; ring

/-- the triangular weights of SWMA (`Spec.swma`) over `n` positions: rising by one on the older ⌈n/2⌉, falling by one on the
    newer ⌊n/2⌋ -/
def triW (n : Nat) : Nat → K := fun i => ((min (i + 1) (n - i) : Nat) : K)

theorem triW_left (n i : Nat) (h : 2 * i + 1 ≤ n) : triW (K := K) n i = ((i + 1 : Nat) : K) := by
  unfold triW; congr 1; omega
theorem triW_right (n i : Nat) (h : n ≤ 2 * i + 1) (hi : i ≤ n) : triW (K := K) n i = (n : K) - i := by
  rw [← Nat.cast_sub hi]; unfold triW; congr 1; omega

end

theorem two_mul_sum_range (n : Nat) : 2 * (List.range n).sum = n * (n - 1) := by
  induction n with
  | zero => simp
  | succ m ih =>
    rw [List.range_succ, List.sum_append, Nat.mul_add, ih]
    simp only [List.sum_cons, List.sum_nil, Nat.add_zero, Nat.add_sub_cancel]
    cases m with
    | zero => simp
    | succ k => simp only [Nat.add_sub_cancel]; ring

section Ordered
variable {K : Type} [Field K] [LinearOrder K] [IsStrictOrderedRing K]

theorem wsum_bounds (lo hi : K) (l ws : List K) (h : l.length = ws.length) (hx : ∀ x ∈ l, lo ≤ x ∧ x ≤ hi)
    (hw : ∀ w ∈ ws, 0 ≤ w) : lo * ws.sum ≤ wsum l ws ∧ wsum l ws ≤ hi * ws.sum := by
  unfold wsum
  induction l generalizing ws with
  | nil => cases ws <;> simp_all
  | cons x t ih =>
    cases ws with
    | nil => simp at h
    | cons w u =>
      have hx0 := hx x (by simp)
      have hw0 := hw w (by simp)
      have := ih u (by simpa using h) (fun y hy => hx y (by simp [hy])) (fun y hy => hw y (by simp [hy]))
      simp only [List.zipWith_cons_cons, List.sum_cons, mul_add]
      exact ⟨add_le_add (mul_le_mul_of_nonneg_right hx0.1 hw0) this.1, add_le_add (mul_le_mul_of_nonneg_right hx0.2 hw0) this.2⟩

theorem wmean_hull (lo hi : K) (l ws : List K) (h : l.length = ws.length) (hx : ∀ x ∈ l, lo ≤ x ∧ x ≤ hi)
    (hw : ∀ w ∈ ws, 0 ≤ w) (hs : 0 < ws.sum) : lo ≤ wsum l ws / ws.sum ∧ wsum l ws / ws.sum ≤ hi :=
  have b := wsum_bounds lo hi l ws h hx hw
  ⟨(le_div_iff₀ hs).2 b.1, (div_le_iff₀ hs).2 b.2⟩

/-- the triangular number as the constructors compute it, in integers -/
theorem cast_tri (n : Nat) : (2 : K) * ((n * (n + 1) / 2 : Nat) : K) = (n : K) * ((n : K) + 1) := by
  have h : 2 * (n * (n + 1) / 2) = n * (n + 1) := Nat.mul_div_cancel' (Nat.even_mul_succ_self n).two_dvd
  exact_mod_cast congrArg (Nat.cast : Nat → K) h

theorem ramp_sum (n : Nat) : ((List.range' 1 n).map (Nat.cast : Nat → K)).sum = ((n * (n + 1) / 2 : Nat) : K) := by
  apply mul_left_cancel₀ (two_ne_zero' K)
  rw [two_mul_sum_step Nat.cast 1 (fun i => by push_cast; ring), cast_tri]; push_cast; ring

end Ordered
end Yata
