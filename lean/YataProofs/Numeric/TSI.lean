/-
  TSI (method): double exponential smoothing of the changes over double exponential smoothing of
  the absolute changes, `0` exactly when the denominator is not positive.
-/
import YataProofs.Numeric.EMA
namespace Yata
variable {K : Type} [Field K] [LinearOrder K]

namespace TSI

structure Inv (aL aS : K) (v : K) (h : List K) (s : TSI K) : Prop where
  last : s.last_value = lastOr v h
  e11 : s.ema11 = ⟨aL, Spec.emaRec aL 0 (Spec.changes v h)⟩
  e12 : s.ema12 = ⟨aS, Spec.emaRec aS 0 (Spec.series (Spec.emaRec aL 0) (Spec.changes v h))⟩
  e21 : s.ema21 = ⟨aL, Spec.emaRec aL 0 ((Spec.changes v h).map sabs)⟩
  e22 : s.ema22 = ⟨aS, Spec.emaRec aS 0 (Spec.series (Spec.emaRec aL 0) ((Spec.changes v h).map sabs))⟩

theorem next_spec {aL aS v : K} {h : List K} {s : TSI K} (x : K) (hi : Inv aL aS v h s) :
    Inv aL aS v (h ++ [x]) (s.next x).2 ∧
    (s.next x).1 =
      (let ch := Spec.changes v (h ++ [x])
       let num := Spec.emaRec aS 0 (Spec.series (Spec.emaRec aL 0) ch)
       let den := Spec.emaRec aS 0 (Spec.series (Spec.emaRec aL 0) (ch.map sabs))
       if 0 < den then num / den else 0) := by
  obtain ⟨hl, h11, h12, h21, h22⟩ := hi
  have hch : Spec.changes v (h ++ [x]) = Spec.changes v h ++ [x - s.last_value] := by rw [changes_snoc, hl]
  have hinv : Inv aL aS v (h ++ [x]) (s.next x).2 := by
    simp only [TSI.next, EMA.next, h11, h12, h21, h22]
    exact {
      last := (lastOr_snoc v h x).symm
      e11 := by rw [hch, emaRec_snoc]
      e12 := by rw [hch, series_snoc, emaRec_snoc, emaRec_snoc]
      e21 := by rw [hch, List.map_append, List.map_singleton, emaRec_snoc]
      e22 := by rw [hch, List.map_append, List.map_singleton, series_snoc, emaRec_snoc, emaRec_snoc] }
  refine ⟨hinv, ?_⟩
  show (s.next x).2.peek = _
  unfold TSI.peek EMA.peek
  rw [hinv.e12, hinv.e22]

theorem new_spec {P short long : Nat} (v : K) (hs0 : 0 < short) (hs : short ≤ P - 1) (hl0 : 0 < long) (hl : long ≤ P - 1) :
    ∃ s, TSI.new P short long v = .ok s ∧
      Inv (((2 : Nat) : K) / ((long + 1 : Nat) : K)) (((2 : Nat) : K) / ((short + 1 : Nat) : K)) v [] s := by
  have h1 := EMA.new_eq (K := K) (P := P) (0 : K) hl0 hl
  have h2 := EMA.new_eq (K := K) (P := P) (0 : K) hs0 hs
  generalize ((2 : Nat) : K) / ((long + 1 : Nat) : K) = aL at h1 ⊢
  generalize ((2 : Nat) : K) / ((short + 1 : Nat) : K) = aS at h2 ⊢
  refine ⟨⟨v, ⟨aL, 0⟩, ⟨aS, 0⟩, ⟨aL, 0⟩, ⟨aS, 0⟩⟩, by simp [TSI.new, h1, h2, Res.bind], ⟨rfl, ?_, ?_, ?_, ?_⟩⟩ <;>
    simp [Spec.changes, Spec.emaRec, Spec.series]

end TSI
end Yata
