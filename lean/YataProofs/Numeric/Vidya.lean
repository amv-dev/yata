/-
  Vidya: the exponential average whose smoothing 2/(n+1) is scaled by |CMO| of the last `n` changes; the running
  up / down sums are the sums of the positive / negative parts of the changes in the window.
-/
import YataProofs.Numeric.Common
import YataProofs.Scalar
namespace Yata
variable {K : Type} [Field K] [LinearOrder K]

theorem mul_ind_eq_posPart (c : K) : c * ind (decide (0 < c)) = Spec.posPart c := by
  unfold ind Spec.posPart; by_cases h : 0 < c <;> simp [h]
theorem neg_mul_ind_eq_negPart (c : K) : -(c * ind (decide (c < 0))) = Spec.negPart c := by
  unfold ind Spec.negPart; by_cases h : c < 0 <;> simp [h]

section
variable [IsStrictOrderedRing K]

theorem cmo_abs_range {up dn : K} (hu : 0 ≤ up) (hd : 0 ≤ dn) :
    0 ≤ sabs ((up - dn) / (up + dn)) ∧ sabs ((up - dn) / (up + dn)) ≤ 1 := by
  rw [sabs_eq_abs]
  exact ⟨abs_nonneg _, abs_le.2 (diff_over_sum_mem hu hd)⟩

/-- the clamp `.min(1.0)` of the implementation does nothing while both sums are non-negative (it only matters for the
    rounding residue of the float run) -/
theorem smin_cmo_eq {up dn : K} (hu : 0 ≤ up) (hd : 0 ≤ dn) (hz : up + dn ≠ 0) :
    smin (sabs ((up - dn) / (up + dn))) 1 = sabs ((up - dn) / (up + dn)) :=
  if_neg (not_lt.mpr (cmo_abs_range hu hd).2)

end

namespace Vidya

/-- one step of the definition: from the previous output and the window of changes -/
def stepOut (f : K) (w : List K) (x out : K) : K :=
  let up := (w.map Spec.posPart).sum
  let dn := (w.map Spec.negPart).sum
  if up + dn = 0 then x
  else x * (f * sabs ((up - dn) / (up + dn))) + (1 - f * sabs ((up - dn) / (up + dn))) * out

def foldStep (n : Nat) (v : K) (xs : List K) (out : K) (i : Nat) : K :=
  stepOut (((2 : Nat) : K) / ((n + 1 : Nat) : K)) (lastN n (List.replicate n 0 ++ (Spec.changes v xs).take (i + 1)))
    (xs[i]?.getD v) out

theorem vidya_eq_foldl (n : Nat) (v : K) (xs : List K) :
    Spec.vidya n v xs = (List.range xs.length).foldl (foldStep n v xs) v := rfl

theorem foldStep_snoc (n : Nat) (v : K) (xs : List K) (x out : K) {i : Nat} (hi : i < xs.length) :
    foldStep n v (xs ++ [x]) out i = foldStep n v xs out i := by
  unfold foldStep
  rw [List.getElem?_append_left hi, changes_snoc, List.take_append_of_le_length (by rw [changes_length]; omega)]

theorem vidya_snoc (n : Nat) (v : K) (xs : List K) (x : K) :
    Spec.vidya n v (xs ++ [x]) =
      stepOut (((2 : Nat) : K) / ((n + 1 : Nat) : K)) (Spec.win n 0 (Spec.changes v (xs ++ [x]))) x (Spec.vidya n v xs) := by
  rw [vidya_eq_foldl, vidya_eq_foldl, List.length_append, List.length_singleton, List.range_succ, List.foldl_append,
    List.foldl_ext _ (foldStep n v xs) v fun out i hi => foldStep_snoc n v xs x out (List.mem_range.mp hi)]
  simp only [List.foldl_cons, List.foldl_nil, foldStep, Spec.win, history, List.getElem?_concat_length, Option.getD_some]
  rw [List.take_of_length_le (by rw [changes_length]; simp)]

structure Inv (P n : Nat) (v : K) (hist : List K) (s : Vidya K) : Prop where
  tracks : Tracks P n s.window (history n 0 (Spec.changes v hist))
  f : s.f = ((2 : Nat) : K) / ((n + 1 : Nat) : K)
  up : s.up_sum = ((Spec.win n 0 (Spec.changes v hist)).map Spec.posPart).sum
  dn : s.dn_sum = ((Spec.win n 0 (Spec.changes v hist)).map Spec.negPart).sum
  lin : s.last_input = lastOr v hist
  lout : s.last_output = Spec.vidya n v hist

theorem new_spec {P n : Nat} (v : K) (hn0 : 0 < n) (hn : n ≤ P - 1) :
    ∃ s, Vidya.new P n v = .ok s ∧ Inv P n v [] s := by
  obtain ⟨w, hw, ht⟩ := Tracks.winNew (P := P) (0 : K) hn
  have hch : Spec.win n 0 (Spec.changes v []) = List.replicate n (0 : K) := lastN_history_nil n 0
  simp only [Vidya.new, not_zero_or_max hn0 hn, hw, Res.bind, if_false]
  refine ⟨_, rfl, { tracks := ht, f := by rw [Nat.add_comm], up := ?_, dn := ?_, lin := rfl, lout := ?_ }⟩
  · rw [hch]; simp [List.map_replicate, Spec.posPart]
  · rw [hch]; simp [List.map_replicate, Spec.negPart]
  · simp [Spec.vidya]

variable [IsStrictOrderedRing K]

/-- the output expression of `next`, once its two running sums are those of the window: the clamp is idle -/
theorem stepOut_eq (f : K) (w : List K) (x out : K) {up dn : K} (hup : up = (w.map Spec.posPart).sum)
    (hdn : dn = (w.map Spec.negPart).sum) :
    (if up + dn ≠ 0 then x * (f * smin (sabs ((up - dn) / (up + dn))) 1) +
        (1 - f * smin (sabs ((up - dn) / (up + dn))) 1) * out else x) = stepOut f w x out := by
  have hu : 0 ≤ up := hup ▸ Spec.sum_posPart_nonneg w
  have hd : 0 ≤ dn := hdn ▸ Spec.sum_negPart_nonneg w
  unfold stepOut
  rw [← hup, ← hdn]
  by_cases hz : up + dn = 0
  · rw [if_neg (not_not.mpr hz), if_pos hz]
  · rw [if_pos hz, if_neg hz, smin_cmo_eq hu hd hz]

theorem next_spec {P n : Nat} {v : K} {hist : List K} {s : Vidya K} (x : K) (hn0 : 0 < n) (h : Inv P n v hist s) :
    ∃ o s', s.next x = .ok (o, s') ∧ Inv P n v (hist ++ [x]) s' ∧ o = Spec.vidya n v (hist ++ [x]) := by
  obtain ⟨left, w', hp, ht', rest, hl, hl'⟩ := h.tracks.slide hn0 (x - s.last_input)
  rw [← history_snoc, h.lin, ← changes_snoc] at ht' hl'
  have hup : s.up_sum - left * ind (decide (0 < left)) + (x - s.last_input) * ind (decide (0 < x - s.last_input)) =
      ((Spec.win n 0 (Spec.changes v (hist ++ [x]))).map Spec.posPart).sum := by
    rw [Spec.win, hl', sum_map_slide _ left, h.up, Spec.win, hl, mul_ind_eq_posPart, mul_ind_eq_posPart, h.lin]; ring
  have hdn : s.dn_sum + left * ind (decide (left < 0)) - (x - s.last_input) * ind (decide (x - s.last_input < 0)) =
      ((Spec.win n 0 (Spec.changes v (hist ++ [x]))).map Spec.negPart).sum := by
    rw [Spec.win, hl', sum_map_slide _ left, h.dn, Spec.win, hl, ← neg_mul_ind_eq_negPart, ← neg_mul_ind_eq_negPart, h.lin]; ring
  have hout := (stepOut_eq s.f _ x s.last_output hup hdn).trans
    (show _ = Spec.vidya n v (hist ++ [x]) by rw [vidya_snoc, h.f, h.lout])
  exact ⟨_, { s with up_sum := _, dn_sum := _, last_input := x, last_output := _, window := w' },
    by unfold Vidya.next; simp only [hp]; rfl,
    { tracks := ht', f := h.f, up := hup, dn := hdn, lin := (lastOr_snoc v hist x).symm, lout := hout }, hout⟩

theorem run_spec {P n : Nat} (v : K) (hn0 : 0 < n) (hn : n ≤ P - 1) (xs : List K) :
    ∃ s0 outs s', Vidya.new P n v = .ok s0 ∧ runM Vidya.next s0 xs = .ok (outs, s') ∧
      outs.length = xs.length ∧ ∀ i (hi : i < outs.length), outs[i] = Spec.vidya n v (xs.take (i + 1)) :=
  method_spec _ _ (Inv P n v) _ (new_spec v hn0 hn) (fun _ _ x h => next_spec x hn0 h) xs

end Vidya

variable [IsStrictOrderedRing K]

theorem Vidya.stepOut_hull {f : K} (hf0 : 0 ≤ f) (hf1 : f ≤ 1) (w : List K) {x out lo hi : K}
    (hx : lo ≤ x ∧ x ≤ hi) (ho : lo ≤ out ∧ out ≤ hi) :
    lo ≤ Vidya.stepOut f w x out ∧ Vidya.stepOut f w x out ≤ hi := by
  unfold Vidya.stepOut
  simp only
  split
  · exact hx
  · have ⟨c0, c1⟩ := cmo_abs_range (Spec.sum_posPart_nonneg w) (Spec.sum_negPart_nonneg w)
    exact convex_between (mul_nonneg hf0 c0) (mul_le_one₀ hf1 c0 c1) hx ho

theorem posPart_parts (c : K) : Spec.posPart c = Spec.negPart c + c ∧ Spec.posPart c + Spec.negPart c = |c| := by
  unfold Spec.posPart Spec.negPart
  rcases lt_trichotomy c 0 with h | h | h
  · rw [if_neg (lt_asymm h), if_pos h, abs_of_neg h]; constructor <;> ring
  · subst h; simp
  · rw [if_pos h, if_neg (lt_asymm h), abs_of_pos h]; constructor <;> ring

theorem updn_sums (w : List K) :
    (w.map Spec.posPart).sum - (w.map Spec.negPart).sum = w.sum ∧
    (w.map Spec.posPart).sum + (w.map Spec.negPart).sum = (w.map (|·|)).sum := by
  constructor
  · rw [List.map_congr_left (fun c _ => (posPart_parts c).1), List.sum_map_add, List.map_id']; ring
  · rw [← List.sum_map_add, List.map_congr_left (fun c _ => (posPart_parts c).2)]

theorem Vidya.stepOut_affine {a : K} (ha : a ≠ 0) (f b : K) (w : List K) (x out : K) :
    Vidya.stepOut f (w.map (a * ·)) (a * x + b) (a * out + b) = a * Vidya.stepOut f w x out + b := by
  -- `|CMO| = |Σ c| / Σ |c|` over the window (`updn_sums`), and `c ↦ a·c` multiplies `Σ c` by `a` and `Σ |c|` by `|a|`
  have ha' : |a| ≠ 0 := abs_ne_zero.2 ha
  have e1 : (w.map (a * ·)).sum = a * w.sum := by have := sum_map_mul a (fun c => c) w; rwa [List.map_id'] at this
  have e2 : ((w.map (a * ·)).map (|·|)).sum = |a| * (w.map (|·|)).sum := by
    rw [List.map_map, ← sum_map_mul]; exact congrArg List.sum (List.map_congr_left fun c _ => abs_mul a c)
  unfold Vidya.stepOut
  simp only [(updn_sums _).1, (updn_sums _).2, e1, e2, sabs_eq_abs, abs_div, abs_mul, abs_abs, mul_div_mul_left _ _ ha',
    mul_eq_zero, ha', false_or]
  split <;> ring

end Yata
