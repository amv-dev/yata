/-
  StDev: the three running accumulators are the window sum, the window sum of squares and minus the
  window mean; the quantity under the final `sqrt` is the sample variance of the last `n` values.
-/
import YataProofs.Numeric.Common
import YataProofs.Scalar
import Mathlib.Tactic.FieldSimp
namespace Yata
variable {K : Type} [Field K]

theorem sum_sq_dev (l : List K) (m : K) :
    (l.map fun x => (x - m) * (x - m)).sum = (l.map fun x => x * x).sum - 2 * m * l.sum + (l.length : K) * (m * m) := by
  induction l with
  | nil => simp
  | cons a t ih =>
    simp only [List.map_cons, List.sum_cons, List.length_cons, ih]
    push_cast
    ring

theorem sum_sq_dev_mean (l : List K) {n : K} (hl : (l.length : K) = n) (hn : n ≠ 0) :
    (l.map fun x => (x - l.sum / n) * (x - l.sum / n)).sum = l.sum * -(l.sum / n) + (l.map fun x => x * x).sum := by
  rw [sum_sq_dev, hl]; field_simp; ring

variable [LinearOrder K] [IsStrictOrderedRing K]

namespace StDev

structure Inv (P n : Nat) (hist : List K) (s : StDev K) : Prop where
  tracks : Tracks P n s.window hist
  vsum : s.val_sum = (lastN n hist).sum
  sqsum : s.sq_val_sum = ((lastN n hist).map fun x => x * x).sum
  mean : s.mean = -((lastN n hist).sum / (n : K))
  divider : s.divider = -(1 / (n : K))
  k : s.k = 1 / ((n - 1 : Nat) : K)

theorem peekVar_eq {P n : Nat} {hist : List K} {s : StDev K} (hn : 2 ≤ n) (h : Inv P n hist s) :
    s.peekVar = ((lastN n hist).map fun x => (x - Spec.mean n (lastN n hist)) * (x - Spec.mean n (lastN n hist))).sum
      / ((n - 1 : Nat) : K) := by
  have hnK : (n : K) ≠ 0 := Nat.cast_ne_zero.mpr (by omega)
  have hlen : ((lastN n hist).length : K) = (n : K) := by rw [lastN_length h.tracks.len]
  unfold StDev.peekVar Spec.mean
  -- the code computes `|(Σx·(−mean) + Σx²)·k|`; the inner sum is `Σ(x − mean)²` (`sum_sq_dev_mean`), so the `abs` does nothing
  rw [sabs_eq_abs, h.vsum, h.sqsum, h.mean, h.k, ← sum_sq_dev_mean _ hlen hnK, mul_one_div, abs_of_nonneg]
  exact div_nonneg (sum_map_nonneg (fun _ => mul_self_nonneg _) _) (Nat.cast_nonneg _)

theorem new_spec {P n : Nat} (v : K) (hn2 : 2 ≤ n) (hn : n ≤ P - 1) :
    ∃ s, StDev.new P n v = .ok s ∧ Inv P n (history n v []) s := by
  obtain ⟨w, hw, ht⟩ := Tracks.winNew (P := P) v hn
  have hnK : (n : K) ≠ 0 := Nat.cast_ne_zero.mpr (by omega)
  simp only [StDev.new, show ¬ (n = 0 ∨ n = 1 ∨ n = P) by omega, hw, Res.bind, if_false]
  refine ⟨_, rfl, { tracks := ht, vsum := ?_, sqsum := ?_, mean := ?_, divider := rfl, k := rfl }⟩
  · rw [lastN_history_nil, sum_replicate_field]; exact mul_comm _ _
  · rw [lastN_history_nil, List.map_replicate, sum_replicate_field]; exact mul_comm _ _
  · rw [lastN_history_nil, sum_replicate_field, mul_div_cancel_left₀ v hnK]

theorem next_spec {P n : Nat} {hist : List K} {s : StDev K} (x : K) (hn2 : 2 ≤ n) (h : Inv P n hist s) :
    ∃ o s', s.next x = .ok (o, s') ∧ Inv P n (hist ++ [x]) s' ∧ o = s'.peekVar := by
  obtain ⟨old, w', hp, ht', rest, hl, hl'⟩ := h.tracks.slide (by omega) x
  simp only [StDev.next, hp]
  refine ⟨_, _, rfl, { tracks := ht', vsum := ?_, sqsum := ?_, mean := ?_, divider := h.divider, k := h.k }, rfl⟩
  · show s.val_sum + (x - old) = _
    rw [h.vsum, hl, hl', sum_slide]
  · show s.sq_val_sum + (x - old) * (x + old) = _
    rw [h.sqsum, hl, hl', sum_map_slide _ old]; ring
  · show s.mean + (x - old) * s.divider = _
    rw [h.mean, h.divider, hl, hl', sum_slide old]; ring

theorem peekVar_nonneg (s : StDev K) : 0 ≤ s.peekVar := by
  unfold StDev.peekVar
  rw [sabs_eq_abs]
  exact abs_nonneg _

theorem next_nonneg {s s' : StDev K} {x v : K} (h : s.next x = .ok (v, s')) : 0 ≤ v := by
  unfold StDev.next at h
  split at h
  · cases h
  · cases h; exact peekVar_nonneg _

end StDev
end Yata
