/-
  MeanAbsDev: mean of the absolute deviations of the last `n` values from their mean; never negative.
  The code sums over the raw ring buffer: the order does not matter for an exact sum.
  CCI, built on it: `(value − mean) / deviation`, and `0` unless `0 < deviation` (an exact comparison, the same at every
  scale of the input).
-/
import YataProofs.Numeric.SMA
import YataProofs.Scalar
namespace Yata
variable {K : Type} [Field K] [LinearOrder K]

theorem MeanAbsDev.peek_eq {P n : Nat} {hist : List K} {s : MeanAbsDev K} (h : SMA.Inv P n hist s.sma) :
    s.peek = ((lastN n hist).map fun x => sabs (x - Spec.mean n (lastN n hist))).sum / (n : K) := by
  unfold MeanAbsDev.peek SMA.peek
  simp only [foldl_add_eq_sum, zero_add]
  rw [sum_map_asSlice, h.tracks.contents, h.value, h.divider, mul_one_div]

variable [IsStrictOrderedRing K]

theorem meanAbsDev_nonneg (n : Nat) (v : K) (xs : List K) : 0 ≤ Spec.meanAbsDev n v xs :=
  div_nonneg (sum_map_nonneg (fun x => by rw [sabs_eq_abs]; exact abs_nonneg _) _) (Nat.cast_nonneg n)

namespace MeanAbsDev

theorem new_spec {P n : Nat} (v : K) (hn0 : 0 < n) (hn : n ≤ P - 1) :
    ∃ s, MeanAbsDev.new P n v = .ok s ∧ SMA.Inv P n (history n v []) s.sma := by
  obtain ⟨s0, hs0, hinv0⟩ := SMA.new_spec (P := P) v hn0 hn
  simp only [MeanAbsDev.new, not_zero_or_max hn0 hn, hs0, Res.bind, if_false]
  exact ⟨_, rfl, hinv0⟩

theorem next_spec {P n : Nat} {hist : List K} {s : MeanAbsDev K} (x : K) (hn0 : 0 < n) (h : SMA.Inv P n hist s.sma) :
    ∃ o s', s.next x = .ok (o, s') ∧ SMA.Inv P n (hist ++ [x]) s'.sma ∧
      o = ((lastN n (hist ++ [x])).map fun y => sabs (y - Spec.mean n (lastN n (hist ++ [x])))).sum / (n : K) := by
  obtain ⟨_, s1, hnx, hinv1, _⟩ := SMA.next_spec x hn0 h
  simp only [MeanAbsDev.next, hnx]
  exact ⟨_, _, rfl, hinv1, peek_eq (s := { sma := s1 }) hinv1⟩

end MeanAbsDev

namespace CCI

theorem new_spec {P n : Nat} (v : K) (hn0 : 0 < n) (hn : n ≤ P - 1) :
    ∃ s, CCI.new P n v = .ok s ∧ SMA.Inv P n (history n v []) s.mad.sma := by
  obtain ⟨m, hm, hinv⟩ := MeanAbsDev.new_spec (P := P) v hn0 hn
  simp only [CCI.new, not_zero_or_max hn0 hn, hm, Res.bind, if_false]
  exact ⟨_, rfl, hinv⟩

theorem next_spec {P n : Nat} {v : K} {h : List K} {s : CCI K} (x : K) (hn0 : 0 < n)
    (hi : SMA.Inv P n (history n v h) s.mad.sma) :
    ∃ o s', s.next x = .ok (o, s') ∧ SMA.Inv P n (history n v (h ++ [x])) s'.mad.sma ∧ o = Spec.cci n v (h ++ [x]) := by
  obtain ⟨d, m, hnx, hinv1, hd⟩ := MeanAbsDev.next_spec x hn0 hi
  rw [← history_snoc] at hinv1 hd
  simp only [CCI.next, hnx]
  refine ⟨_, _, rfl, hinv1, ?_⟩
  have hma : m.sma.peek = Spec.sma n v (h ++ [x]) := hinv1.value
  rw [Spec.cci, cur_snoc, ← hma, hd]; rfl

end CCI
end Yata
