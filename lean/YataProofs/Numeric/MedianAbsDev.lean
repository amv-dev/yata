/-
  MedianAbsDev: mean absolute deviation of the last `n` values around their median (the mean of the two middle
  elements of the sorted window), for every stream.
-/
import YataProofs.SMM
namespace Yata
variable {K : Type} [Field K] [LinearOrder K]

namespace MedianAbsDev

/-- the state reached from `MedianAbsDev.new P n v` by the inputs `h` -/
structure Inv (P n : Nat) (v : K) (h : List K) (s : MedianAbsDev K) : Prop where
  run : SMM.Run P n v h s.smm
  divider : s.divider = 1 / (n : K)

theorem peek_eq {P n : Nat} {v : K} {h : List K} {s : MedianAbsDev K} (hn0 : 0 < n) (hi : Inv P n v h s) :
    s.peek = .ok (Spec.medianAbsDev n v h) := by
  obtain ⟨a, b, hmid, hmed⟩ : ∃ a b, s.smm.mid = .ok (a, b) ∧ (a + b) * MedianAbsDev.half = Spec.median (Spec.win n v h) :=
    hi.run.median hn0
  unfold MedianAbsDev.peek
  rw [hmid]
  simp only [hmed, foldl_add_eq_sum, zero_add, sum_map_asSlice, hi.run.window, hi.divider, mul_one_div]
  rfl

theorem new_spec {P n : Nat} (v : K) (hn2 : 2 ≤ n) (hn : n ≤ P - 1) :
    ∃ s, MedianAbsDev.new P n v = .ok s ∧ Inv P n v [] s := by
  obtain ⟨m0, hm0, hr⟩ := SMM.Run.new (P := P) v (by omega : 0 < n) hn
  simp only [MedianAbsDev.new, show ¬ (n = 0 ∨ n = 1 ∨ n = P) by omega, hm0, Res.bind, if_false]
  exact ⟨_, rfl, hr, rfl⟩

variable [TotalCmp K] [TotalLike K]

theorem next_spec {P n : Nat} {v : K} {h : List K} {s : MedianAbsDev K} (x : K) (hn0 : 0 < n) (hi : Inv P n v h s) :
    ∃ o s', s.next x = .ok (o, s') ∧ Inv P n v (h ++ [x]) s' ∧ o = Spec.medianAbsDev n v (h ++ [x]) := by
  obtain ⟨s1, hst, hr⟩ := hi.run.step hn0 x
  have hinv : Inv P n v (h ++ [x]) { s with smm := s1 } := ⟨hr, hi.divider⟩
  simp only [MedianAbsDev.next, hst, peek_eq hn0 hinv]
  exact ⟨_, _, rfl, hinv, rfl⟩

end MedianAbsDev
end Yata
