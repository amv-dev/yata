/-
  The exponential family: EMA, DMA, TMA, DEMA, TEMA, RMA, WSMA follow their documented
  recurrences, with exactly the documented smoothing constants.
-/
import YataProofs.Numeric.Common
namespace Yata

section
variable {K : Type} [Field K]

theorem Spec.emaRec_append (a v : K) (xs ys : List K) :
    Spec.emaRec a v (xs ++ ys) = Spec.emaRec a (Spec.emaRec a v xs) ys := by
  induction xs generalizing v with
  | nil => rfl
  | cons x t ih => simp only [List.cons_append, Spec.emaRec, ih]

theorem emaRec_snoc (a v : K) (l : List K) (x : K) :
    Spec.emaRec a v (l ++ [x]) = (x - Spec.emaRec a v l) * a + Spec.emaRec a v l :=
  Spec.emaRec_append a v l [x]

theorem EMA.new_eq {P n : Nat} (v : K) (hn0 : 0 < n) (hn : n ≤ P - 1) :
    EMA.new P n v = .ok { alpha := ((2 : Nat) : K) / ((n + 1 : Nat) : K), value := v } := by
  have hnP : n ≠ P := by omega
  simp [EMA.new, Nat.pos_iff_ne_zero.mp hn0, hnP, chkAdd_ok (show n + 1 ≤ P by omega)]

theorem RMA.new_eq {P n : Nat} (v : K) (hn0 : 0 < n) :
    RMA.new P n v = .ok { alpha := 1 / (n : K), alpha_rev := 1 - 1 / (n : K), prev_value := v } := by
  simp [RMA.new, Nat.pos_iff_ne_zero.mp hn0]

theorem ema_family_new {P n : Nat} (v : K) (hn0 : 0 < n) (hn : n ≤ P - 1) :
    let e : EMA K := ⟨((2 : Nat) : K) / ((n + 1 : Nat) : K), v⟩
    DMA.new P n v = .ok ⟨e, e⟩ ∧ TMA.new P n v = .ok ⟨⟨e, e⟩, e⟩ ∧ DEMA.new P n v = .ok ⟨e, e⟩ ∧
      TEMA.new P n v = .ok ⟨e, e, e⟩ := by
  have he := EMA.new_eq (P := P) v hn0 hn
  simp [DMA.new, TMA.new, DEMA.new, TEMA.new, not_zero_or_max hn0 hn, he, Res.bind]

/-- The three nested recurrences, for every smoothing `a`.  At `a = 2/(n+1)` they are the formulas of `YataModel/Spec.lean`,
    each by `rfl`: `e1 a v` is `Spec.ema n v`, `e2 a v` is `Spec.dma n v`, `e3 a v` is `Spec.tma n v`; `Spec.dema n v` is
    `2·e1 − e2` and `Spec.tema n v` is `3·(e1 − e2) + e3`. -/
def e1 (a v : K) (h : List K) : K := Spec.emaRec a v h
def e2 (a v : K) (h : List K) : K := Spec.emaRec a v (Spec.series (e1 a v) h)
def e3 (a v : K) (h : List K) : K := Spec.emaRec a v (Spec.series (e2 a v) h)

theorem e1_snoc (a v : K) (h : List K) (x : K) : e1 a v (h ++ [x]) = (x - e1 a v h) * a + e1 a v h :=
  emaRec_snoc a v h x
theorem e2_snoc (a v : K) (h : List K) (x : K) :
    e2 a v (h ++ [x]) = (e1 a v (h ++ [x]) - e2 a v h) * a + e2 a v h := by
  unfold e2; rw [series_snoc, emaRec_snoc]
theorem e3_snoc (a v : K) (h : List K) (x : K) :
    e3 a v (h ++ [x]) = (e2 a v (h ++ [x]) - e3 a v h) * a + e3 a v h := by
  unfold e3; rw [series_snoc, emaRec_snoc]

theorem EMA.run_spec (a v : K) (xs : List K) :
    ∃ outs, runM (liftNext EMA.next) { alpha := a, value := v } xs =
        .ok (outs, { alpha := a, value := Spec.emaRec a v xs }) ∧ outs.length = xs.length ∧
      ∀ i (hi : i < outs.length), outs[i] = Spec.emaRec a v (xs.take (i + 1)) :=
  liftNext_spec EMA.next (fun h => ⟨a, Spec.emaRec a v h⟩) (Spec.emaRec a v)
    (fun h x => by rw [emaRec_snoc]; rfl) xs

/-- RMA keeps `1 − a` beside `a` and computes `a·x + (1 − a)·e`: the same recurrence -/
theorem RMA.run_spec (a v : K) (xs : List K) :
    ∃ outs, runM (liftNext RMA.next) { alpha := a, alpha_rev := 1 - a, prev_value := v } xs =
        .ok (outs, { alpha := a, alpha_rev := 1 - a, prev_value := Spec.emaRec a v xs }) ∧ outs.length = xs.length ∧
      ∀ i (hi : i < outs.length), outs[i] = Spec.emaRec a v (xs.take (i + 1)) :=
  liftNext_spec RMA.next (fun h => ⟨a, 1 - a, Spec.emaRec a v h⟩) (Spec.emaRec a v)
    (fun h x => by
      have e : (x - Spec.emaRec a v h) * a + Spec.emaRec a v h = a * x + (1 - a) * Spec.emaRec a v h := by ring
      rw [emaRec_snoc, e]; rfl) xs

theorem DMA.run_spec (a v : K) (xs : List K) :
    ∃ outs s', runM (liftNext DMA.next) { ema := ⟨a, v⟩, dma := ⟨a, v⟩ } xs = .ok (outs, s') ∧
      outs.length = xs.length ∧ ∀ i (hi : i < outs.length), outs[i] = e2 a v (xs.take (i + 1)) := by
  obtain ⟨os, h⟩ := liftNext_spec DMA.next (fun h => ⟨⟨a, e1 a v h⟩, ⟨a, e2 a v h⟩⟩) (e2 a v)
    (fun h x => by rw [e2_snoc, e1_snoc]; rfl) xs
  exact ⟨os, _, h⟩

theorem TMA.run_spec (a v : K) (xs : List K) :
    ∃ outs s', runM (liftNext TMA.next) { dma := { ema := ⟨a, v⟩, dma := ⟨a, v⟩ }, tma := ⟨a, v⟩ } xs = .ok (outs, s') ∧
      outs.length = xs.length ∧ ∀ i (hi : i < outs.length), outs[i] = e3 a v (xs.take (i + 1)) := by
  obtain ⟨os, h⟩ := liftNext_spec TMA.next (fun h => ⟨⟨⟨a, e1 a v h⟩, ⟨a, e2 a v h⟩⟩, ⟨a, e3 a v h⟩⟩) (e3 a v)
    (fun h x => by rw [e3_snoc, e2_snoc, e1_snoc]; rfl) xs
  exact ⟨os, _, h⟩

theorem DEMA.run_spec (a v : K) (xs : List K) :
    ∃ outs s', runM (liftNext DEMA.next) { ema := ⟨a, v⟩, dma := ⟨a, v⟩ } xs = .ok (outs, s') ∧
      outs.length = xs.length ∧
      ∀ i (hi : i < outs.length), outs[i] = 2 * e1 a v (xs.take (i + 1)) - e2 a v (xs.take (i + 1)) := by
  obtain ⟨os, h⟩ := liftNext_spec DEMA.next (fun h => ⟨⟨a, e1 a v h⟩, ⟨a, e2 a v h⟩⟩) (fun h => 2 * e1 a v h - e2 a v h)
    (fun h x => by
      -- the new state first; the output is `peek` of it, read off with the smoothers still folded
      have hs : (DEMA.next ⟨⟨a, e1 a v h⟩, ⟨a, e2 a v h⟩⟩ x).2 = ⟨⟨a, e1 a v (h ++ [x])⟩, ⟨a, e2 a v (h ++ [x])⟩⟩ := by
        rw [e2_snoc, e1_snoc]; rfl
      refine Prod.ext ?_ hs
      show (DEMA.next _ x).2.peek = _
      rw [hs, DEMA.peek]; push_cast; ring) xs
  exact ⟨os, _, h⟩

theorem TEMA.run_spec (a v : K) (xs : List K) :
    ∃ outs s', runM (liftNext TEMA.next) { ema := ⟨a, v⟩, dma := ⟨a, v⟩, tma := ⟨a, v⟩ } xs = .ok (outs, s') ∧
      outs.length = xs.length ∧
      ∀ i (hi : i < outs.length),
        outs[i] = 3 * (e1 a v (xs.take (i + 1)) - e2 a v (xs.take (i + 1))) + e3 a v (xs.take (i + 1)) := by
  obtain ⟨os, h⟩ := liftNext_spec TEMA.next (fun h => ⟨⟨a, e1 a v h⟩, ⟨a, e2 a v h⟩, ⟨a, e3 a v h⟩⟩)
    (fun h => 3 * (e1 a v h - e2 a v h) + e3 a v h)
    (fun h x => by
      have hs : (TEMA.next ⟨⟨a, e1 a v h⟩, ⟨a, e2 a v h⟩, ⟨a, e3 a v h⟩⟩ x).2 =
          ⟨⟨a, e1 a v (h ++ [x])⟩, ⟨a, e2 a v (h ++ [x])⟩, ⟨a, e3 a v (h ++ [x])⟩⟩ := by
        rw [e3_snoc, e2_snoc, e1_snoc]; rfl
      refine Prod.ext ?_ hs
      show (TEMA.next _ x).2.peek = _
      rw [hs, TEMA.peek]; push_cast; ring) xs
  exact ⟨os, _, h⟩

end

variable {K : Type} [Field K] [LinearOrder K] [IsStrictOrderedRing K]

theorem EMA.next_value (s : EMA K) (x : K) :
    (s.next x).1 = (x - s.value) * s.alpha + s.value ∧ (s.next x).2 = { s with value := (x - s.value) * s.alpha + s.value } :=
  ⟨rfl, rfl⟩

/-- WSMA(n) is an EMA of length `2n−1`, whose smoothing `2/((2n−1)+1)` is exactly `1/n` -/
theorem WSMA.new_eq {P n : Nat} (v : K) (hn0 : 0 < n) (hn : n ≤ P / 2) :
    WSMA.new P n v = .ok { ema := { alpha := 1 / (n : K), value := v } } := by
  have he := EMA.new_eq (K := K) (P := P) (n := n * 2 - 1) v (by omega) (by omega)
  rw [show n * 2 - 1 + 1 = n * 2 by omega, Nat.cast_mul, div_mul_cancel_right₀ (by norm_num), ← one_div] at he
  simp only [WSMA.new, Nat.not_lt.mpr hn, Nat.pos_iff_ne_zero.mp hn0, chkMul_ok (show n * 2 ≤ P by omega),
    chkSub_ok (show 1 ≤ n * 2 by omega), he, Res.bind, if_false]

theorem e1_nil (a v : K) : e1 a v [] = v := rfl
theorem e2_nil (a v : K) : e2 a v [] = v := rfl
theorem e3_nil (a v : K) : e3 a v [] = v := rfl

end Yata
