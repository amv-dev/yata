/-
  Shared lemmas for the sliding-window methods: histories and `lastN`, the window that tracks a history (`Tracks`) and
  what one push does to it, run theorems for specs that are functions of the last `n` values, list sums in a field,
  successive differences.
-/
import YataProofs.Window
import YataProofs.Runner
import YataModel.Spec
import YataModel.Methods.Basic
import Mathlib.Algebra.Order.BigOperators.Group.List
import Mathlib.Algebra.Order.Field.Basic
import Mathlib.Tactic.Ring
import Mathlib.Tactic.Linarith

namespace Yata
variable {α : Type}

theorem forall_mem_snoc {p : α → Prop} {l : List α} {t : α} (hl : ∀ x ∈ l, p x) (ht : p t) :
    ∀ x ∈ l ++ [t], p x :=
  List.forall_mem_append.2 ⟨hl, List.forall_mem_singleton.2 ht⟩

theorem lastN_snoc {n : Nat} {h : List α} (x : α) (hn : 0 < n) (hl : n ≤ h.length) :
    lastN n (h ++ [x]) = (lastN n h).tail ++ [x] := by
  unfold lastN
  rw [List.length_append, List.length_singleton, show h.length + 1 - n = (h.length - n) + 1 by omega, List.tail_drop,
    List.drop_append_of_le_length (by omega)]

theorem lastN_length {n : Nat} {h : List α} (hl : n ≤ h.length) : (lastN n h).length = n := by
  unfold lastN; rw [List.length_drop]; omega

theorem history_length (n : Nat) (v : α) (xs : List α) : (history n v xs).length = n + xs.length := by
  simp [history]

theorem history_snoc (n : Nat) (v : α) (xs : List α) (x : α) :
    history n v (xs ++ [x]) = history n v xs ++ [x] := by
  simp [history]

theorem lastN_history_nil (n : Nat) (v : α) : lastN n (history n v []) = List.replicate n v := by
  simp [lastN, history]

theorem lastN_replicate {n L : Nat} (h : n ≤ L) (z : α) : lastN n (List.replicate L z) = List.replicate n z := by
  unfold lastN
  rw [List.length_replicate, List.drop_replicate, Nat.sub_sub_self h]

theorem lastN_append_of_le {n : Nat} (l ys : List α) (h : n ≤ ys.length) : lastN n (l ++ ys) = lastN n ys := by
  unfold lastN
  rw [List.length_append, Nat.add_sub_assoc h, List.drop_length_add_append]

theorem lastN_append (L : Nat) (A B : List α) (h : L ≤ A.length) : lastN (L + B.length) (A ++ B) = lastN L A ++ B := by
  unfold lastN
  rw [List.length_append, show A.length + B.length - (L + B.length) = A.length - L by omega,
    List.drop_append_of_le_length (by omega)]

theorem lastN_split (L R : Nat) (H : List α) (h : L + R ≤ H.length) :
    lastN (L + R) H = lastN L (H.take (H.length - R)) ++ lastN R H := by
  have hB : (lastN R H).length = R := lastN_length (by omega)
  rw [← lastN_append L _ (lastN R H) (by rw [List.length_take]; omega), hB]
  exact congrArg _ (List.take_append_drop _ H).symm

theorem lastN_history_push {n : Nat} (hn0 : 0 < n) (v : α) (h : List α) (x : α) {l l' : List α}
    (hl : l = lastN n (history n v h)) (hl' : l' = l.tail ++ [x]) : l' = lastN n (history n v (h ++ [x])) := by
  rw [hl', hl, history_snoc, lastN_snoc x hn0 (by simp [history])]

theorem lastN_map {β : Type} (f : α → β) (n : Nat) (l : List α) : lastN n (l.map f) = (lastN n l).map f := by
  unfold lastN; rw [List.length_map, List.map_drop]

theorem mem_lastN_snoc (n : Nat) (l : List α) (x : α) (hn : 0 < n) (hl : n ≤ l.length) :
    x ∈ lastN n (l ++ [x]) := by
  rw [lastN_snoc x hn hl]; simp

/-! ### the window of a history: `Spec.win n v xs`, written out as `lastN n (history n v xs)` (the form C07 and C08 state) -/

theorem win_map {β : Type} (f : α → β) (n : Nat) (v : α) (xs : List α) :
    lastN n (history n (f v) (xs.map f)) = (lastN n (history n v xs)).map f := by
  rw [← lastN_map]; simp [history]

theorem win_length (n : Nat) (v : α) (xs : List α) : (lastN n (history n v xs)).length = n :=
  lastN_length (by simp [history])

theorem lastN_zipWith (f : α → α → α) (n : Nat) (l m : List α) (h : l.length = m.length) :
    lastN n (List.zipWith f l m) = List.zipWith f (lastN n l) (lastN n m) := by
  simp [lastN, List.drop_zipWith, h]

theorem win_zipWith (f : α → α → α) (n : Nat) (v w : α) (xs ys : List α) (h : xs.length = ys.length) :
    lastN n (history n (f v w) (List.zipWith f xs ys)) =
      List.zipWith f (lastN n (history n v xs)) (lastN n (history n w ys)) := by
  rw [← lastN_zipWith _ _ _ _ (by simp [history, h])]
  congr 1
  simp [history, List.zipWith_append]

theorem mem_win (n : Nat) (v : α) (xs : List α) (x : α) (h : x ∈ lastN n (history n v xs)) : x ∈ v :: xs :=
  (List.mem_append.1 (List.mem_of_mem_drop h)).elim (fun hv => List.eq_of_mem_replicate hv ▸ List.mem_cons_self)
    (List.mem_cons_of_mem v)

theorem win_prefix_invariant (n j : Nat) (v : α) (xs : List α) :
    lastN n (history n v (List.replicate j v ++ xs)) = lastN n (history n v xs) := by
  unfold history
  rw [← List.append_assoc, ← List.replicate_add, Nat.add_comm, List.replicate_add, List.append_assoc,
    lastN_append_of_le _ _ (by simp)]

theorem win_constant (n k : Nat) (v : α) : lastN n (history n v (List.replicate k v)) = List.replicate n v := by
  have := win_prefix_invariant n k v ([] : List α)
  simp only [List.append_nil] at this
  rw [this, lastN_history_nil]

structure Tracks (P : Nat) (n : Nat) (w : Window α) (hist : List α) : Prop where
  inv : Window.Inv P w
  size : w.size = n
  len : n ≤ hist.length
  contents : Window.toList w = lastN n hist

theorem Tracks.new {P n : Nat} (v : α) (hn : n ≤ P - 1) :
    ∃ w, Window.new P n v = .ok w ∧ Tracks P n w (history n v []) := by
  obtain ⟨w, hw, hinv, htl, hsz⟩ := Window.new_ok (P := P) v hn
  exact ⟨w, hw, { inv := hinv, size := hsz, len := by simp [history], contents := by rw [htl, lastN_history_nil] }⟩

theorem Tracks.slide {P n : Nat} {w : Window α} {hist : List α} (t : Tracks P n w hist) (hn : 0 < n) (x : α) :
    ∃ old w', w.push x = .ok (old, w') ∧ Tracks P n w' (hist ++ [x]) ∧
      ∃ rest, lastN n hist = old :: rest ∧ lastN n (hist ++ [x]) = rest ++ [x] := by
  obtain ⟨old, rest, w', hl, hp, hinv, hsz, htl⟩ := Window.push_cons x t.inv (by rw [t.size]; exact hn)
  rw [t.contents] at hl
  have hl' : lastN n (hist ++ [x]) = rest ++ [x] := by rw [lastN_snoc x hn t.len, hl]; rfl
  refine ⟨old, w', hp, ?_, rest, hl, hl'⟩
  exact {
    inv := hinv
    size := by rw [hsz, t.size]
    len := by rw [List.length_append]; exact Nat.le_add_right_of_le t.len
    contents := by rw [htl, hl'] }

theorem Tracks.rest_length {P n : Nat} {w : Window α} {hist : List α} (t : Tracks P n w hist) {old : α} {rest : List α}
    (hl : lastN n hist = old :: rest) : rest.length + 1 = n := by
  rw [← lastN_length t.len, hl]; rfl

theorem Tracks.isEmpty {P n : Nat} {w : Window α} {hist : List α} (t : Tracks P n w hist) (hn : 0 < n) :
    w.isEmpty = false := by
  have h1 := t.inv.size_eq
  have h2 := t.size
  cases hb : w.buf with
  | nil => rw [hb] at h1; simp at h1; omega
  | cons a l => simp [Window.isEmpty, hb]

theorem Tracks.winNew {P n : Nat} (v : α) (hn : n ≤ P - 1) :
    ∃ w, winNew P n v = .ok w ∧ Tracks P n w (history n v []) := by
  obtain ⟨w, hw, ht⟩ := Tracks.new (P := P) v hn
  exact ⟨w, by simp [Yata.winNew, hw, Res.ofExcept], ht⟩

theorem Tracks.winNew_replicate {P k m : Nat} (v : α) (hk : k ≤ P - 1) (hkm : k ≤ m) :
    ∃ w, Yata.winNew P k v = .ok w ∧ Tracks P k w (List.replicate m v) := by
  obtain ⟨w, hw, ht⟩ := Tracks.winNew (P := P) v hk
  exact ⟨w, hw, { ht with
    len := by rw [List.length_replicate]; exact hkm
    contents := by rw [ht.contents, lastN_history_nil, lastN_replicate hkm v] }⟩

theorem past_of_cons {n : Nat} (v : α) (xs : List α) (x : α) {old : α} {rest : List α} (hn : 0 < n)
    (h : lastN n (history n v xs) = old :: rest) : Spec.past n v (xs ++ [x]) = old := by
  have hlen := history_length n v xs
  have hk : (history n v xs)[(history n v xs).length - n]? = some old := by
    rw [← List.head?_drop]; exact congrArg List.head? h
  unfold Spec.past
  rw [history_snoc, List.getElem?_reverse (by rw [List.length_append, List.length_singleton]; omega), List.length_append,
    List.length_singleton, Nat.add_sub_cancel, List.getElem?_append_left (by omega), hk]
  rfl

theorem cur_snoc (n : Nat) (v : α) (xs : List α) (x : α) : Spec.cur n v (xs ++ [x]) = x := by
  simp [Spec.cur, history]

theorem Tracks.past {P n : Nat} {v : α} {w : Window α} {xs : List α} (t : Tracks P n w (history n v xs)) (hn : 0 < n)
    (x : α) :
    ∃ old w', w.push x = .ok (old, w') ∧ Tracks P n w' (history n v (xs ++ [x])) ∧ Spec.past n v (xs ++ [x]) = old := by
  obtain ⟨old, w', hp, ht, rest, hl, -⟩ := t.slide hn x
  exact ⟨old, w', hp, by rw [history_snoc]; exact ht, past_of_cons v xs x hn hl⟩

theorem prefixes_snoc {β : Type} (f : List α → β) (h : List α) (x : α) :
    (List.range (h ++ [x]).length).map (fun j => f ((h ++ [x]).take (j + 1))) =
      (List.range h.length).map (fun j => f (h.take (j + 1))) ++ [f (h ++ [x])] := by
  rw [List.length_append, List.length_singleton, List.range_succ, List.map_append, List.map_singleton,
    List.take_of_length_le (by simp)]
  congr 1
  exact List.map_congr_left fun j hj => by rw [List.take_append_of_le_length (by have := List.mem_range.mp hj; omega)]

theorem series_snoc (f : List α → α) (h : List α) (x : α) :
    Spec.series f (h ++ [x]) = Spec.series f h ++ [f (h ++ [x])] :=
  prefixes_snoc f h x

theorem series_length (f : List α → α) (xs : List α) : (Spec.series f xs).length = xs.length := by
  simp [Spec.series]

theorem series_mem (f : List α → α) (xs : List α) :
    ∀ y ∈ Spec.series f xs, ∃ i, y = f (xs.take (i + 1)) := by
  intro y hy
  simp only [Spec.series, List.mem_map] at hy
  obtain ⟨i, _, rfl⟩ := hy
  exact ⟨i, rfl⟩

theorem series_map (f g : List α → α) (φ : α → α) (xs : List α)
    (h : ∀ p : List α, g (p.map φ) = φ (f p)) : Spec.series g (xs.map φ) = (Spec.series f xs).map φ := by
  unfold Spec.series
  simp only [List.length_map, List.map_map]
  apply List.map_congr_left
  intro i _
  simp only [Function.comp, ← List.map_take, h]

theorem series_zipWith [Add α] (f g k : List α → α) (xs ys : List α) (hl : xs.length = ys.length)
    (h : ∀ p q : List α, p.length = q.length → k (List.zipWith (· + ·) p q) = f p + g q) :
    Spec.series k (List.zipWith (· + ·) xs ys) = List.zipWith (· + ·) (Spec.series f xs) (Spec.series g ys) := by
  unfold Spec.series
  apply List.ext_getElem
  · simp [hl]
  · intro i h1 h2
    simp only [List.getElem_map, List.getElem_range, List.getElem_zipWith, List.take_zipWith]
    exact h _ _ (by simp [hl])

theorem windowed_spec {σ ο : Type} {n : Nat} (v : α) (new : Res σ) (next : σ → α → Except Panic (ο × σ))
    (Inv : List α → σ → Prop) (f : List α → ο)
    (hnew : ∃ s, new = .ok s ∧ Inv (history n v []) s)
    (hstep : ∀ hist s x, Inv hist s →
      ∃ o s', next s x = .ok (o, s') ∧ Inv (hist ++ [x]) s' ∧ o = f (lastN n (hist ++ [x])))
    (xs : List α) :
    ∃ s0 outs s', new = .ok s0 ∧ runM next s0 xs = .ok (outs, s') ∧ outs.length = xs.length ∧
      ∀ i (hi : i < outs.length), outs[i] = f (Spec.win n v (xs.take (i + 1))) := by
  apply method_spec new next (fun h s => Inv (history n v h) s) (fun h => f (Spec.win n v h)) hnew
  intro h s x hinv
  simp only [Spec.win, history_snoc]
  exact hstep _ s x hinv

theorem runM_window {σ ο : Type} (next : σ → α → Except Panic (ο × σ)) (win : σ → Window α) (I : σ → Prop)
    (Q : σ → ο → Prop) {n : Nat} (v : α) (hn0 : 0 < n)
    (hstep : ∀ s x, I s → ∃ o s', next s x = .ok (o, s') ∧ I s' ∧ Q s' o ∧
      Window.toList (win s') = (Window.toList (win s)).tail ++ [x])
    {s0 : σ} (h0 : I s0) (hw0 : Window.toList (win s0) = List.replicate n v) (xs : List α) :
    ∃ outs s', runM next s0 xs = .ok (outs, s') ∧ outs.length = xs.length ∧
      ∀ i (hi : i < outs.length), ∃ s, I s ∧ Window.toList (win s) = lastN n (history n v (xs.take (i + 1))) ∧ Q s outs[i] := by
  obtain ⟨os, s', hr, _, hlen, houts⟩ :=
    runM_invariant next
      (fun h s => I s ∧ Window.toList (win s) = lastN n (history n v h))
      (fun h o => ∃ s, I s ∧ Window.toList (win s) = lastN n (history n v h) ∧ Q s o)
      (by
        intro h s x ⟨hinv, htl⟩
        obtain ⟨o, s1, hnx, hinv1, ho, htl1⟩ := hstep s x hinv
        have e := lastN_history_push hn0 v h x htl htl1
        exact ⟨o, s1, hnx, ⟨hinv1, e⟩, s1, hinv1, e, ho⟩)
      xs [] s0 ⟨h0, by rw [hw0, lastN_history_nil]⟩
  exact ⟨os, s', hr, hlen, fun i hi => by simpa using houts i hi⟩

section
variable {K : Type} [Field K]

theorem sum_replicate_field (n : Nat) (v : K) : (List.replicate n v).sum = (n : K) * v := by
  simp [List.sum_replicate]

theorem sum_map_mul (a : K) (f : K → K) (l : List K) : (l.map fun c => a * f c).sum = a * (l.map f).sum := by
  induction l with
  | nil => simp
  | cons x t ih => simp only [List.map_cons, List.sum_cons, ih]; ring

theorem foldl_add_eq_sum (l : List K) (a : K) : l.foldl (· + ·) a = a + l.sum := by
  induction l generalizing a with
  | nil => simp
  | cons x t ih => simp only [List.foldl_cons, List.sum_cons, ih]; ring

theorem sum_map_asSlice (w : Window K) (f : K → K) :
    (w.asSlice.map f).sum = ((Window.toList w).map f).sum := by
  unfold Window.asSlice Window.toList
  rw [List.map_append, List.sum_append, add_comm, ← List.sum_append, ← List.map_append, List.take_append_drop]

theorem sum_map_slide {β : Type} (f : β → K) (old x : β) (rest : List β) :
    ((rest ++ [x]).map f).sum = ((old :: rest).map f).sum + (f x - f old) := by
  simp only [List.map_append, List.sum_append, List.map_cons, List.map_nil, List.sum_cons, List.sum_nil]; ring

theorem sum_slide (old x : K) (rest : List K) : (rest ++ [x]).sum = (old :: rest).sum + (x - old) := by
  simpa only [List.map_id, id_eq] using sum_map_slide id old x rest

end

section
variable {K : Type}

def lastOr (p : K) (l : List K) : K := (p :: l).getLast (by simp)

theorem lastOr_snoc {α : Type} (p : α) (l : List α) (x : α) : lastOr p (l ++ [x]) = x := by
  unfold lastOr
  have e : p :: (l ++ [x]) = (p :: l) ++ [x] := rfl
  simp only [e, List.getLast_concat]

theorem lastOr_cons {α : Type} (p a : α) (t : List α) : lastOr p (a :: t) = lastOr a t := by
  unfold lastOr
  rw [List.getLast_cons (by simp)]

variable [Field K]

theorem changes_snoc (p : K) (l : List K) (x : K) :
    Spec.changes p (l ++ [x]) = Spec.changes p l ++ [x - lastOr p l] := by
  induction l generalizing p with
  | nil => simp [Spec.changes, lastOr]
  | cons a t ih =>
    simp only [List.cons_append, Spec.changes, ih a, lastOr_cons]

theorem changes_length (p : K) (l : List K) : (Spec.changes p l).length = l.length := by
  induction l generalizing p with
  | nil => rfl
  | cons a t ih => simp [Spec.changes, ih]

theorem changes_affine (a b p : K) (xs : List K) :
    Spec.changes (a * p + b) (xs.map fun x => a * x + b) = (Spec.changes p xs).map (a * ·) := by
  induction xs generalizing p with
  | nil => rfl
  | cons x t ih => simp only [List.map_cons, Spec.changes, ih x]; congr 1; ring

theorem win_changes_affine (n : Nat) (a b v : K) (xs : List K) :
    Spec.win n 0 (Spec.changes (a * v + b) (xs.map fun x => a * x + b)) = (Spec.win n 0 (Spec.changes v xs)).map (a * ·) := by
  rw [changes_affine, Spec.win, Spec.win, history, history, ← lastN_map, List.map_append, List.map_replicate, mul_zero]

end

section
variable {K : Type} [Field K] [LinearOrder K] [IsStrictOrderedRing K]

omit [IsStrictOrderedRing K] in
theorem Spec.posPart_nonneg (c : K) : 0 ≤ Spec.posPart c := by
  unfold Spec.posPart; split; exacts [le_of_lt ‹_›, le_rfl]
theorem Spec.negPart_nonneg (c : K) : 0 ≤ Spec.negPart c := by
  unfold Spec.negPart; split; exacts [(neg_pos.mpr ‹_›).le, le_rfl]

theorem sum_map_nonneg {β : Type} {f : β → K} (h : ∀ x, 0 ≤ f x) (l : List β) : 0 ≤ (l.map f).sum :=
  List.sum_nonneg (List.forall_mem_map.mpr fun x _ => h x)

theorem Spec.sum_posPart_nonneg (w : List K) : 0 ≤ (w.map Spec.posPart).sum := sum_map_nonneg Spec.posPart_nonneg w
theorem Spec.sum_negPart_nonneg (w : List K) : 0 ≤ (w.map Spec.negPart).sum := sum_map_nonneg Spec.negPart_nonneg w

theorem sum_slide_nonneg {β : Type} (f : β → K) {S : K} {old x : β} {rest : List β}
    (hS : S = ((old :: rest).map f).sum) (h0 : ∀ c ∈ rest ++ [x], 0 ≤ f c) :
    S + (f x - f old) = ((rest ++ [x]).map f).sum ∧ 0 ≤ S + (f x - f old) := by
  have e : S + (f x - f old) = ((rest ++ [x]).map f).sum := by rw [hS, sum_map_slide f old]
  exact ⟨e, e ▸ List.sum_nonneg (List.forall_mem_map.mpr h0)⟩

end

end Yata
