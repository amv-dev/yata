/-
  VWMA (volume-weighted mean of the last n pairs), windowed ADI (sum of CLV·volume of the last n candles), and the two
  averages built from other averages, TRIMA (SMA of SMA) and HMA (WMA of a combination of two WMAs): machine =
  from-scratch formula on every stream.
-/
import YataProofs.Numeric.SMA
import YataProofs.Numeric.WMA
import YataModel.Methods.Candles
namespace Yata
variable {K : Type} [Field K]

namespace VWMA

structure Inv (P n : Nat) (hist : List (K × K)) (s : VWMA K) : Prop where
  tracks : Tracks P n s.window hist
  sum : s.sum = ((lastN n hist).map fun p => p.1 * p.2).sum
  vol : s.vol_sum = ((lastN n hist).map fun p => p.2).sum

theorem new_spec {P n : Nat} (v : K × K) (hn0 : 0 < n) (hn : n ≤ P - 1) :
    ∃ s, VWMA.new P n v = .ok s ∧ Inv P n (history n v []) s := by
  obtain ⟨w, hw, ht⟩ := Tracks.winNew (P := P) v hn
  simp only [VWMA.new, not_zero_or_max hn0 hn, show Res.ofExcept (Window.new P n v) = .ok w from hw, Res.bind, if_false]
  exact ⟨_, rfl, ht, by simp [lastN_history_nil, mul_comm], by simp [lastN_history_nil, mul_comm]⟩

theorem next_spec {P n : Nat} {hist : List (K × K)} {s : VWMA K} (x : K × K) (hn0 : 0 < n) (hi : Inv P n hist s) :
    ∃ o s', s.next x = .ok (o, s') ∧ Inv P n (hist ++ [x]) s' ∧
      o = ((lastN n (hist ++ [x])).map fun p => p.1 * p.2).sum / ((lastN n (hist ++ [x])).map fun p => p.2).sum := by
  obtain ⟨old, w', hp, ht', rest, hl, hl'⟩ := hi.tracks.slide hn0 x
  have hs : s.sum + (x.1 * x.2 + (-old.1) * old.2) = ((lastN n (hist ++ [x])).map fun p => p.1 * p.2).sum := by
    rw [hi.sum, hl, hl', sum_map_slide _ old]; ring
  have hv : s.vol_sum + (x.2 - old.2) = ((lastN n (hist ++ [x])).map fun p => p.2).sum := by
    rw [hi.vol, hl, hl', sum_map_slide _ old]
  simp only [VWMA.next, VWMA.peek, hp]
  exact ⟨_, _, rfl, ⟨ht', hs, hv⟩, by rw [hs, hv]⟩
end VWMA

variable [LinearOrder K]

namespace ADI

structure Inv (P n : Nat) (hist : List (Candle K)) (s : ADI K) : Prop where
  tracks : Tracks P n s.window (hist.map fun c => c.clv * c.volume)
  sum : s.cmf_sum = ((lastN n hist).map fun c => c.clv * c.volume).sum

theorem new_spec {P n : Nat} (c0 : Candle K) (hn0 : 0 < n) (hn : n ≤ P - 1) :
    ∃ s, ADI.new P n c0 = .ok s ∧ Inv P n (history n c0 []) s := by
  obtain ⟨w, hw, ht⟩ := Tracks.winNew (P := P) (c0.clv * c0.volume) hn
  simp only [ADI.new, show n ≠ P by omega, hn0, hw, Res.bind, if_false, if_true]
  exact ⟨_, rfl, by simpa [history] using ht, by simp [lastN_history_nil, mul_comm]⟩

theorem next_spec {P n : Nat} {hist : List (Candle K)} {s : ADI K} (x : Candle K) (hn0 : 0 < n) (h : Inv P n hist s) :
    ∃ o s', s.next x = .ok (o, s') ∧ Inv P n (hist ++ [x]) s' ∧
      o = ((lastN n (hist ++ [x])).map fun c => c.clv * c.volume).sum := by
  obtain ⟨old, w', hp, ht', rest, hl, hl'⟩ := h.tracks.slide hn0 (x.clv * x.volume)
  rw [← List.map_singleton (f := fun c : Candle K => c.clv * c.volume), ← List.map_append] at ht' hl'
  rw [lastN_map] at hl'
  have hs : s.cmf_sum + x.clv * x.volume - old = ((lastN n (hist ++ [x])).map fun c => c.clv * c.volume).sum := by
    rw [hl', List.map_singleton, h.sum, ← lastN_map, hl, sum_slide old]; ring
  exact ⟨_, { cmf_sum := s.cmf_sum + x.clv * x.volume - old, window := w' },
    by simp [ADI.next, h.tracks.isEmpty hn0, hp], ⟨ht', hs⟩, hs⟩
end ADI

variable [IsStrictOrderedRing K]

namespace TRIMA

theorem run_spec {P n : Nat} (v : K) (hn0 : 0 < n) (hn : n ≤ P - 1) (xs : List K) :
    ∃ s0 outs s', TRIMA.new P n v = .ok s0 ∧ runM TRIMA.next s0 xs = .ok (outs, s') ∧
      outs.length = xs.length ∧ ∀ i (hi : i < outs.length), outs[i] = Spec.trima n v (xs.take (i + 1)) := by
  obtain ⟨a0, ha0, hia0⟩ := SMA.new_spec (P := P) v hn0 hn
  apply method_spec _ _ (fun h s => SMA.Inv P n (history n v h) s.sma1 ∧
      SMA.Inv P n (history n v (Spec.series (Spec.sma n v) h)) s.sma2)
  · refine ⟨{ sma1 := a0, sma2 := a0 }, by simp [TRIMA.new, ha0, Res.bind], hia0, by simpa [Spec.series] using hia0⟩
  · intro h s x ⟨h1, h2⟩
    obtain ⟨a, hn1, hi1⟩ := SMA.next_sma x hn0 h1
    obtain ⟨b, hn2, hi2⟩ := SMA.next_sma (Spec.sma n v (h ++ [x])) hn0 h2
    rw [← series_snoc] at hn2 hi2
    exact ⟨_, { sma1 := a, sma2 := b }, by simp only [TRIMA.next, hn1, hn2]; rfl, ⟨hi1, hi2⟩, rfl⟩

end TRIMA

namespace HMA

theorem run_spec {P n : Nat} (v : K) (hn2 : 2 ≤ n) (hn : n ≤ P - 1) (xs : List K) :
    ∃ s0 outs s', HMA.new P n v = .ok s0 ∧ runM HMA.next s0 xs = .ok (outs, s') ∧
      outs.length = xs.length ∧ ∀ i (hi : i < outs.length), outs[i] = Spec.hma n v (xs.take (i + 1)) := by
  have h2 : 0 < n / 2 := Nat.div_pos hn2 (by norm_num)
  have h2le : n / 2 ≤ P - 1 := le_trans (Nat.div_le_self n 2) hn
  have hs0 : 0 < Nat.sqrt n := Nat.sqrt_pos.mpr (by omega)
  have hsle : Nat.sqrt n ≤ P - 1 := le_trans (Nat.sqrt_le_self n) hn
  obtain ⟨a0, ha0, hia0⟩ := WMA.new_spec (P := P) v h2 h2le
  obtain ⟨b0, hb0, hib0⟩ := WMA.new_spec (P := P) v (by omega : 0 < n) hn
  obtain ⟨c0, hc0, hic0⟩ := WMA.new_spec (P := P) v hs0 hsle
  let inner : List K → K := fun p => ((2 : Nat) : K) * Spec.wma (n / 2) v p - Spec.wma n v p
  apply method_spec (HMA.new P n v) HMA.next
    (fun h (s : HMA K) => WMA.Inv P (n / 2) (history (n / 2) v h) s.wma1 ∧ WMA.Inv P n (history n v h) s.wma2 ∧
      WMA.Inv P (Nat.sqrt n) (history (Nat.sqrt n) v (Spec.series inner h)) s.wma3)
    (fun h => Spec.hma n v h)
  · refine ⟨{ wma1 := a0, wma2 := b0, wma3 := c0 }, ?_, hia0, hib0, by simpa [Spec.series] using hic0⟩
    simp only [HMA.new, show ¬ (n = 0 ∨ n = 1 ∨ n = P) by omega, ha0, hb0, hc0, Res.bind, if_false]
  · intro h s x ⟨i1, i2, i3⟩
    obtain ⟨a, hn1, hi1⟩ := WMA.next_wma x h2 i1
    obtain ⟨b, hn2', hi2⟩ := WMA.next_wma x (by omega : 0 < n) i2
    obtain ⟨c, hn3, hi3⟩ := WMA.next_wma (Spec.wma (n / 2) v (h ++ [x]) * ((2 : Nat) : K) + -Spec.wma n v (h ++ [x])) hs0 i3
    have e : Spec.wma (n / 2) v (h ++ [x]) * ((2 : Nat) : K) + -Spec.wma n v (h ++ [x]) = inner (h ++ [x]) := by
      simp only [inner]; ring
    refine ⟨_, { wma1 := a, wma2 := b, wma3 := c }, by simp only [HMA.next, hn1, hn2', hn3]; rfl, ⟨hi1, hi2, ?_⟩, ?_⟩
    · rw [series_snoc, ← e]; exact hi3
    · rw [e, ← series_snoc]; rfl

end HMA

end Yata
