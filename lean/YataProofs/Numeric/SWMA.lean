/-
  SWMA: symmetric (triangular) weights min(i+1, n−i) over the last `n` values, maintained with two windows
  (the older ⌈n/2⌉ values with rising weights, the newer ⌊n/2⌋ values with falling weights) and three accumulators.
-/
import YataProofs.Numeric.WMA
import Mathlib.Tactic.LinearCombination
namespace Yata

namespace SWMA
variable {α : Type}

def older (R : Nat) (H : List α) : List α := H.take (H.length - R)

theorem older_snoc (R : Nat) (H : List α) (x : α) {y : α} {rest : List α} (hl : R ≤ H.length)
    (hy : lastN R H = y :: rest) : older R (H ++ [x]) = older R H ++ [y] := by
  have hk : H[H.length - R]? = some y := by rw [← List.head?_drop]; exact congrArg List.head? hy
  obtain ⟨hlt, -⟩ := List.getElem?_eq_some_iff.mp hk
  unfold older
  rw [List.length_append, List.length_singleton, show H.length + 1 - R = (H.length - R) + 1 by omega,
    List.take_append_of_le_length (by omega), List.take_add_one, hk]
  rfl

end SWMA

variable {K : Type} [Field K]

theorem cast_halves (n : Nat) : (n : K) = (((n + 1) / 2 : Nat) : K) + ((n / 2 : Nat) : K) := by
  rw [← Nat.cast_add]; congr 1; omega

theorem triW_sum (n : Nat) (A B : List K) (hA : A.length = (n + 1) / 2) (hB : B.length = n / 2) :
    wsumIdx (triW n) 0 (A ++ B) = Spec.rampSum 1 A + wsumIdx (fun i => (n : K) - i) ((n + 1) / 2) B := by
  rw [wsumIdx_append, Nat.zero_add, hA, rampSum_eq_wsumIdx, ← wsumIdx_shift,
    wsumIdx_congr (triW n) (fun i => ((i + 1 : Nat) : K)) 0 A fun i _ hi => triW_left n i (by omega),
    wsumIdx_congr (triW n) (fun i => (n : K) - i) _ B fun i _ hi => triW_right n i (by omega) (by omega)]

theorem triW_halves_replicate (n : Nat) (v : K) :
    Spec.rampSum 1 (List.replicate ((n + 1) / 2) v) +
        wsumIdx (fun i => (n : K) - i) ((n + 1) / 2) (List.replicate (n / 2) v) =
      v * ((List.range n).map (triW n)).sum := by
  rw [← triW_sum n _ _ List.length_replicate List.length_replicate, ← List.replicate_add,
    show (n + 1) / 2 + n / 2 = n by omega, wsumIdx_replicate, ← List.range_eq_range']

namespace SWMA

structure Inv (P n : Nat) (hist : List K) (s : SWMA K) : Prop where
  rt : Tracks P (n / 2) s.right_window hist
  lt : Tracks P ((n + 1) / 2) s.left_window (older (n / 2) hist)
  right_total : s.right_total = (lastN (n / 2) hist).sum
  right_float_length : s.right_float_length = -((n / 2 : Nat) : K)
  left_total : s.left_total = -(lastN ((n + 1) / 2) (older (n / 2) hist)).sum
  left_float_length : s.left_float_length = (((n + 1) / 2 : Nat) : K)
  invert_sum : s.invert_sum = 1 / ((List.range n).map (triW n)).sum
  numerator : s.numerator = Spec.rampSum 1 (lastN ((n + 1) / 2) (older (n / 2) hist)) +
    wsumIdx (fun i => (n : K) - i) ((n + 1) / 2) (lastN (n / 2) hist)

theorem Inv.numerator_eq {P n : Nat} {hist : List K} {s : SWMA K} (h : Inv P n hist s) :
    s.numerator = wsumIdx (triW n) 0 (lastN n hist) := by
  have hlen : (n + 1) / 2 + n / 2 ≤ hist.length := by
    have h1 := h.lt.len; have h2 := h.rt.len
    unfold older at h1; rw [List.length_take] at h1; omega
  have hsplit : lastN ((n + 1) / 2 + n / 2) hist = lastN ((n + 1) / 2) (older (n / 2) hist) ++ lastN (n / 2) hist :=
    lastN_split _ _ hist hlen
  rw [show (n + 1) / 2 + n / 2 = n by omega] at hsplit
  rw [hsplit, triW_sum n _ _ (lastN_length h.lt.len) (lastN_length h.rt.len), h.numerator]

end SWMA

variable [LinearOrder K] [IsStrictOrderedRing K]

/-- the sum of the weights as `SWMA::new` computes it in integers: a triangular number for each half (Gauss's sum twice) -/
theorem triW_total (n : Nat) :
    ((List.range n).map (triW (K := K) n)).sum =
      (((((n + 1) / 2) * ((n + 1) / 2 + 1) / 2 + (n / 2) * (n / 2 + 1) / 2 : Nat)) : K) := by
  have h := triW_halves_replicate n (1 : K)
  rw [rampSum_replicate, wsumIdx_replicate] at h
  have hR := two_mul_sum_step (fun i => (n : K) - i) (-1) (fun i => by push_cast; ring) ((n + 1) / 2) (n / 2)
  have h1 := cast_tri (K := K) (n / 2)
  push_cast at hR ⊢
  -- `hR`: twice the falling half is `⌊n/2⌋·(2(n − ⌈n/2⌉) − (⌊n/2⌋ − 1))`, which is `⌊n/2⌋·(⌊n/2⌋ + 1)` as `n − ⌈n/2⌉ = ⌊n/2⌋`
  linear_combination -h + (1 / 2 : K) * hR - (1 / 2 : K) * h1 + ((n / 2 : Nat) : K) * cast_halves (K := K) n

namespace SWMA

theorem new_spec {P n : Nat} (v : K) (hn2 : 2 ≤ n) (hn : n ≤ P - 1) :
    ∃ s, SWMA.new P n v = .ok s ∧ Inv P n (history n v []) s := by
  have hold : older (n / 2) (List.replicate n v) = List.replicate ((n + 1) / 2) v := by
    unfold older; rw [List.length_replicate, List.take_replicate]; congr 1; omega
  have hR := lastN_replicate (Nat.div_le_self n 2) v
  have hL := lastN_replicate (n := (n + 1) / 2) le_rfl v
  obtain ⟨rw', hrw, hrt⟩ := Tracks.winNew_replicate (P := P) (k := n / 2) (m := n) v (by omega) (Nat.div_le_self n 2)
  obtain ⟨lw', hlw, hlt⟩ := Tracks.winNew_replicate (P := P) (k := (n + 1) / 2) (m := (n + 1) / 2) v (by omega) le_rfl
  simp only [SWMA.new, not_zero_or_max (by omega) hn, chkAdd_ok (show n + 1 ≤ P by omega), hrw, hlw, Res.bind, if_false]
  refine ⟨_, rfl, ?_⟩
  rw [show history n v [] = List.replicate n v by simp [history]]
  exact {
    rt := hrt
    lt := hold ▸ hlt
    right_total := by rw [hR, sum_replicate_field, mul_comm]
    right_float_length := rfl
    left_total := by show (-v) * _ = _; rw [hold, hL, sum_replicate_field, neg_mul, mul_comm]
    left_float_length := rfl
    invert_sum := by rw [triW_total]
    numerator := by rw [hold, hL, hR, triW_halves_replicate, triW_total] }

theorem next_spec {P n : Nat} {hist : List K} {s : SWMA K} (x : K) (hn2 : 2 ≤ n) (h : Inv P n hist s) :
    ∃ o s', s.next x = .ok (o, s') ∧ Inv P n (hist ++ [x]) s' ∧ o = s'.numerator * s'.invert_sum := by
  have hR : 0 < n / 2 := Nat.div_pos hn2 (by norm_num)
  have hL : 0 < (n + 1) / 2 := Nat.div_pos (by omega) (by norm_num)
  -- the newer half evicts `a`, which enters the older half, which evicts `b`
  obtain ⟨a, rw', hrp, hrt', t, hat, hat'⟩ := h.rt.slide hR x
  obtain ⟨b, lw', hlp, hlt', u, hbu, hbu'⟩ := h.lt.slide hL a
  have holder : older (n / 2) (hist ++ [x]) = older (n / 2) hist ++ [a] :=
    older_snoc (n / 2) hist x h.rt.len hat
  simp only [SWMA.next, h.rt.isEmpty hR, hrp, hlp, SWMA.peek, Bool.false_eq_true, if_false]
  refine ⟨_, _, rfl, ?_, rfl⟩
  exact {
    rt := hrt'
    lt := by rw [holder]; exact hlt'
    right_total := by
      show s.right_total + (x - a) = _
      rw [h.right_total, hat, hat', sum_slide a]
    right_float_length := h.right_float_length
    left_total := by
      show s.left_total + (b - a) = _
      rw [h.left_total, holder, hbu, hbu', sum_slide b]; ring
    left_float_length := h.left_float_length
    invert_sum := h.invert_sum
    numerator := by
      show s.numerator + (a * s.right_float_length + (s.right_total + (x - a))) + (a * s.left_float_length + s.left_total) = _
      have hlenR : ((n / 2 : Nat) : K) = t.length + 1 := by exact_mod_cast (h.rt.rest_length hat).symm
      rw [h.numerator, h.right_float_length, h.right_total, h.left_float_length, h.left_total, holder, hbu', hat', hat, hbu,
        rampSum_slide b a u, h.lt.rest_length hbu, wsumIdx_slide _ (-1) (fun i => by push_cast; ring) _ a x t,
        List.sum_cons (a := a)]
      push_cast
      -- the sums cancel; `a` leaves the newer half with weight `n − ⌈n/2⌉`, which is the `⌊n/2⌋` subtracted for it, and `x`
      -- enters with weight `n − (⌈n/2⌉ + |t|)`, which is the `1` added for it, as `⌊n/2⌋ = |t| + 1`
      linear_combination (a - x) * cast_halves (K := K) n - x * hlenR }

theorem run_spec {P n : Nat} (v : K) (hn2 : 2 ≤ n) (hn : n ≤ P - 1) (xs : List K) :
    ∃ s0 outs s', SWMA.new P n v = .ok s0 ∧ runM SWMA.next s0 xs = .ok (outs, s') ∧
      outs.length = xs.length ∧ ∀ i (hi : i < outs.length), outs[i] = Spec.swma n v (xs.take (i + 1)) := by
  obtain ⟨s0, outs, s', h1, h2, h3, h4⟩ := windowed_spec v _ _ (Inv P n)
    (fun l => wsumIdx (triW n) 0 l * (1 / ((List.range n).map (triW (K := K) n)).sum)) (new_spec v hn2 hn)
    (fun hist s x h => by
      obtain ⟨o, s', hnx, hinv', ho⟩ := next_spec x hn2 h
      exact ⟨o, s', hnx, hinv', by rw [ho, hinv'.numerator_eq, hinv'.invert_sum]⟩) xs
  refine ⟨s0, outs, s', h1, h2, h3, fun i hi => ?_⟩
  rw [h4 i hi, Spec.swma, if_neg (by omega), weighted_eq_wsumIdx, mul_one_div,
    show (Spec.win n v (xs.take (i + 1))).length = n from win_length n v _]
  rfl

end SWMA
end Yata
