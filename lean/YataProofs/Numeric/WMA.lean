/-
  WMA: numerator = Σ (n-i)·x_{t-i}, total = -Σ x_{t-i}; output = weighted mean with weights
  n, n-1, …, 1 from the newest.
-/
import YataProofs.Numeric.WSum
namespace Yata
variable {K : Type} [Field K]

theorem rampSum_eq_wsumIdx (k : Nat) (l : List K) : Spec.rampSum k l = wsumIdx Nat.cast k l := by
  induction l generalizing k with
  | nil => rfl
  | cons x t ih => rw [wsumIdx_cons, ← ih]; rfl

theorem rampSum_append (k : Nat) (l m : List K) :
    Spec.rampSum k (l ++ m) = Spec.rampSum k l + Spec.rampSum (k + l.length) m := by
  simp only [rampSum_eq_wsumIdx, wsumIdx_append]

theorem rampSum_succ (k : Nat) (l : List K) : Spec.rampSum (k + 1) l = Spec.rampSum k l + l.sum := by
  rw [rampSum_eq_wsumIdx, rampSum_eq_wsumIdx, wsumIdx_succ_of_step _ 1 (fun i => by push_cast; ring), one_mul]

theorem rampSum_slide (old x : K) (rest : List K) :
    Spec.rampSum 1 (rest ++ [x]) =
      Spec.rampSum 1 (old :: rest) - (old :: rest).sum + ((rest.length + 1 : Nat) : K) * x := by
  rw [rampSum_eq_wsumIdx, rampSum_eq_wsumIdx, wsumIdx_slide _ 1 (fun i => by push_cast; ring) 1 old x rest, List.sum_cons]
  push_cast; ring

variable [LinearOrder K] [IsStrictOrderedRing K]

theorem rampSum_replicate (n : Nat) (v : K) :
    Spec.rampSum 1 (List.replicate n v) = ((n * (n + 1) / 2 : Nat) : K) * v := by
  rw [rampSum_eq_wsumIdx, wsumIdx_replicate, ramp_sum, mul_comm]

namespace WMA

structure Inv (P n : Nat) (hist : List K) (s : WMA K) : Prop where
  tracks : Tracks P n s.window hist
  invert_sum : s.invert_sum = 1 / ((n * (n + 1) / 2 : Nat) : K)
  float_length : s.float_length = (n : K)
  total : s.total = -(lastN n hist).sum
  numerator : s.numerator = Spec.rampSum 1 (lastN n hist)

theorem new_spec {P n : Nat} (v : K) (hn0 : 0 < n) (hn : n ≤ P - 1) :
    ∃ s, WMA.new P n v = .ok s ∧ Inv P n (history n v []) s := by
  obtain ⟨w, hw, ht⟩ := Tracks.winNew (P := P) v hn
  simp only [WMA.new, not_zero_or_max hn0 hn, hw, Res.bind, if_false]
  refine ⟨_, rfl, { tracks := ht, invert_sum := rfl, float_length := rfl, total := ?_, numerator := ?_ }⟩
  · rw [lastN_history_nil, sum_replicate_field]; ring
  · simp only [lastN_history_nil, rampSum_replicate]; ring

theorem next_spec {P n : Nat} {hist : List K} {s : WMA K} (x : K) (hn0 : 0 < n) (h : Inv P n hist s) :
    ∃ o s', s.next x = .ok (o, s') ∧ Inv P n (hist ++ [x]) s' ∧
      o = Spec.rampSum 1 (lastN n (hist ++ [x])) / ((n * (n + 1) / 2 : Nat) : K) := by
  obtain ⟨old, w', hp, ht', rest, hl, hl'⟩ := h.tracks.slide hn0 x
  have hlen := h.tracks.rest_length hl
  have hnum : s.numerator + (s.float_length * x + s.total) = Spec.rampSum 1 (lastN n (hist ++ [x])) := by
    rw [h.numerator, h.float_length, h.total, hl, hl', rampSum_slide old, hlen]; ring
  have htot : s.total + (old - x) = -(lastN n (hist ++ [x])).sum := by
    rw [h.total, hl, hl', sum_slide old]; ring
  simp only [WMA.next, WMA.peek, hp]
  refine ⟨_, _, rfl,
    { tracks := ht', invert_sum := h.invert_sum, float_length := h.float_length, total := htot, numerator := hnum }, ?_⟩
  rw [hnum, h.invert_sum]; ring

theorem next_wma {P n : Nat} {v : K} {h : List K} {s : WMA K} (x : K) (hn0 : 0 < n) (hi : Inv P n (history n v h) s) :
    ∃ s', s.next x = .ok (Spec.wma n v (h ++ [x]), s') ∧ Inv P n (history n v (h ++ [x])) s' := by
  obtain ⟨o, s', hnx, hi', ho⟩ := next_spec x hn0 hi
  rw [← history_snoc] at hi' ho
  subst ho
  exact ⟨s', hnx, hi'⟩

theorem run_spec {P n : Nat} (v : K) (hn0 : 0 < n) (hn : n ≤ P - 1) (xs : List K) :
    ∃ s0 outs s', WMA.new P n v = .ok s0 ∧ runM WMA.next s0 xs = .ok (outs, s') ∧
      outs.length = xs.length ∧ ∀ i (hi : i < outs.length), outs[i] = Spec.wma n v (xs.take (i + 1)) :=
  windowed_spec v _ _ (Inv P n) (fun l => Spec.rampSum 1 l / ((n * (n + 1) / 2 : Nat) : K)) (new_spec v hn0 hn)
    (fun _ _ x h => next_spec x hn0 h) xs

end WMA
end Yata
