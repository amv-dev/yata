/-
  LinReg: the running sums are Σy and Σ(abscissa·y) over the last `n` values (abscissae −(n−1) … 0), and the
  output is the least-squares line through them evaluated at the newest point.
-/
import YataProofs.Numeric.WSum
namespace Yata

theorem six_mul_sum_sq_range (m : Nat) :
    6 * ((List.range (m + 1)).map fun i => i * i).sum = m * (m + 1) * (2 * m + 1) := by
  induction m with
  | zero => simp
  | succ k ih =>
    rw [List.range_succ, List.map_append, List.sum_append, Nat.mul_add, ih]
    simp only [List.map_cons, List.map_nil, List.sum_cons, List.sum_nil, Nat.add_zero]
    ring

namespace LinReg

/-- the constants computed by `new` are the sums of the abscissae and of their squares -/
theorem sx_eq (n : Nat) : n * (n - 1) / 2 = (List.range n).sum := by
  have := two_mul_sum_range n
  omega

theorem sx2_eq (n : Nat) : (n * (n - 1) / 2) * (2 * (n - 1) + 1) / 3 = ((List.range n).map fun i => i * i).sum := by
  -- 3·Σi² = Σi·(2(n−1)+1), from 6·Σi² = (n−1)n(2n−1) and 2·Σi = n(n−1)
  have h3 : (List.range n).sum * (2 * (n - 1) + 1) = 3 * ((List.range n).map fun i => i * i).sum := by
    cases n with
    | zero => simp
    | succ m =>
      have h1 := two_mul_sum_range (m + 1)
      rw [Nat.add_sub_cancel] at h1 ⊢
      refine Nat.eq_of_mul_eq_mul_left (by norm_num : 0 < 2) ?_
      rw [← Nat.mul_assoc, h1, ← Nat.mul_assoc, show 2 * 3 = 6 from rfl, six_mul_sum_sq_range m]; ring
  rw [sx_eq, h3, Nat.mul_div_cancel_left _ (by norm_num)]

/-- Cauchy–Schwarz for the abscissae, from the closed forms: 12·(Σi)² = 3n²(n−1)² ≤ 2n²(n−1)(2n−1) = 12·n·Σi².
    It makes the integer subtraction in the constructor's divider exact. -/
theorem sq_sum_range_le (n : Nat) :
    (List.range n).sum * (List.range n).sum ≤ n * ((List.range n).map fun i => i * i).sum := by
  cases n with
  | zero => simp
  | succ m =>
    have h1 := two_mul_sum_range (m + 1)
    rw [Nat.add_sub_cancel] at h1
    refine Nat.le_of_mul_le_mul_left (c := 12) ?_ (by norm_num)
    calc 12 * ((List.range (m + 1)).sum * (List.range (m + 1)).sum)
        = 3 * ((2 * (List.range (m + 1)).sum) * (2 * (List.range (m + 1)).sum)) := by ring
      _ = (m + 1) * (m + 1) * m * (3 * m) := by rw [h1]; ring
      _ ≤ (m + 1) * (m + 1) * m * (4 * m + 2) := Nat.mul_le_mul_left _ (by omega)
      _ = 2 * (m + 1) * (m * (m + 1) * (2 * m + 1)) := by ring
      _ = 12 * ((m + 1) * ((List.range (m + 1)).map fun i => i * i).sum) := by rw [← six_mul_sum_sq_range m]; ring

variable {K : Type} [Field K]

structure Inv (P n : Nat) (hist : List K) (s : LinReg K) : Prop where
  tracks : Tracks P n s.window hist
  fl : s.float_length = (n : K)
  li : s.length_invert = -(1 / (n : K))
  dv : s.divider = 1 / ((n : K) * ((((List.range n).map fun i => i * i).sum : Nat) : K) -
        (((List.range n).sum : Nat) : K) * (((List.range n).sum : Nat) : K))
  sx : s.s_x = -(((List.range n).sum : Nat) : K)
  sy : s.s_y = -(lastN n hist).sum
  sxy : s.s_xy = wsumIdx (fun i => (i : K) - ((n - 1 : Nat) : K)) 0 (lastN n hist)

/-- the right-hand side is the body of `Spec.linreg` on the window `lastN n hist`, with its `xysum` written as a `wsumIdx`
    (`sum_zipIdx` turns the `zipIdx` sum of the specification into it) -/
theorem b_eq {P n : Nat} {hist : List K} {s : LinReg K} (h : Inv P n hist s) :
    s.b =
      (let l := lastN n hist
       let nn : K := (n : K)
       let xsum : K := -(((List.range n).sum : Nat) : K)
       let x2sum : K := ((((List.range n).map fun i => i * i).sum : Nat) : K)
       let ysum := l.sum
       let xysum := wsumIdx (fun i => (i : K) - ((n - 1 : Nat) : K)) 0 l
       let k := (nn * xysum - xsum * ysum) / (nn * x2sum - xsum * xsum)
       (ysum - k * xsum) / nn) := by
  simp only [LinReg.b, LinReg.tan, h.fl, h.li, h.dv, h.sx, h.sy, h.sxy]
  ring

theorem next_spec {P n : Nat} {hist : List K} {s : LinReg K} (x : K) (hn0 : 0 < n) (h : Inv P n hist s) :
    ∃ o s', s.next x = .ok (o, s') ∧ Inv P n (hist ++ [x]) s' ∧ o = s'.b := by
  obtain ⟨old, w', hp, ht', rest, hl, hl'⟩ := h.tracks.slide hn0 x
  have hlen := h.tracks.rest_length hl
  simp only [LinReg.next, hp]
  refine ⟨_, _, rfl, { tracks := ht', fl := h.fl, li := h.li, dv := h.dv, sx := h.sx, sy := ?_, sxy := ?_ }, rfl⟩
  · show s.s_y + (old - x) = _
    rw [h.sy, hl, hl', sum_slide old]; ring
  · show s.s_xy + (old * s.float_length + s.s_y) = _
    -- abscissae rise by one per position; the newcomer sits at abscissa `rest.length − (n−1) = 0`
    rw [h.sxy, h.sy, h.fl, hl, hl', wsumIdx_slide _ 1 (fun i => by push_cast; ring) 0 old x rest, List.sum_cons,
      Nat.zero_add, ← hlen]
    push_cast; ring

end LinReg

variable {K : Type} [Field K] [LinearOrder K] [IsStrictOrderedRing K]

theorem abscissa_sum (n : Nat) :
    ((List.range' 0 n).map fun i : Nat => ((i : Nat) : K) - ((n - 1 : Nat) : K)).sum = -(((List.range n).sum : Nat) : K) := by
  have h : (2 : K) * (((List.range n).sum : Nat) : K) = (n : K) * ((n - 1 : Nat) : K) := by
    exact_mod_cast two_mul_sum_range n
  apply mul_left_cancel₀ (two_ne_zero' K)
  rw [two_mul_sum_step _ 1 (fun i => by push_cast; ring), mul_neg, h]
  cases n with
  | zero => simp
  | succ k => simp only [Nat.add_sub_cancel]; push_cast; ring

namespace LinReg

theorem new_spec {P n : Nat} (v : K) (hn2 : 2 ≤ n) (hn : n ≤ P - 1) :
    ∃ s, LinReg.new P n v = .ok s ∧ Inv P n (history n v []) s := by
  obtain ⟨w, hw, ht⟩ := Tracks.winNew (P := P) v hn
  have hsx := sx_eq n
  simp only [LinReg.new, show ¬ (n = 0 ∨ n = 1 ∨ n = P) by omega, hw, Res.bind, if_false]
  refine ⟨_, rfl, { tracks := ht, fl := rfl, li := rfl, dv := ?_, sx := by rw [hsx], sy := ?_, sxy := ?_ }⟩
  · dsimp only
    rw [sx2_eq n, hsx, Nat.cast_sub (sq_sum_range_le n)]; push_cast; ring
  · rw [lastN_history_nil, sum_replicate_field]; ring
  · rw [hsx, lastN_history_nil, wsumIdx_replicate, abscissa_sum]

theorem run_spec {P n : Nat} (v : K) (hn2 : 2 ≤ n) (hn : n ≤ P - 1) (xs : List K) :
    ∃ s0 outs s', LinReg.new P n v = .ok s0 ∧ runM LinReg.next s0 xs = .ok (outs, s') ∧
      outs.length = xs.length ∧ ∀ i (hi : i < outs.length), outs[i] = Spec.linreg n v (xs.take (i + 1)) := by
  have hn0 : 0 < n := by omega
  apply method_spec _ _ (fun h s => Inv P n (history n v h) s)
  · exact new_spec v hn2 hn
  · intro h s x hinv
    obtain ⟨o, s', hnx, hinv', ho⟩ := next_spec x hn0 hinv
    refine ⟨o, s', hnx, by rw [history_snoc]; exact hinv', ?_⟩
    rw [ho, b_eq hinv']
    simp only [Spec.linreg, Spec.win, history_snoc]
    rw [sum_zipIdx fun i => (i : K) - ((n - 1 : Nat) : K)]

end LinReg
end Yata
