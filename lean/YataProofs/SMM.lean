/-
  SMM: the sorted slice is a sorted permutation of the window, whatever the stream; the reported
  middle elements are therefore the median(s) of the last `n` values.
  The order is the total order of the bit patterns (`total_cmp`): `tcmp = compare` of a linear order.
  The users of SMM (the configurable moving average, MedianAbsDev) rest on `SMM.Run` and its lemmas.
-/
import YataProofs.Selection
import Mathlib.Data.List.Sort
import YataProofs.Numeric.Common
namespace Yata

section Lists
variable {β : Type}

theorem take_getElem_drop {l : List β} {k : Nat} (hk : k < l.length) : l.take k ++ l[k] :: l.drop (k + 1) = l := by
  rw [← List.drop_eq_getElem_cons hk, List.take_append_drop]

theorem set_length_append (A : List β) (x v : β) (B : List β) : (A ++ x :: B).set A.length v = A ++ v :: B := by
  rw [List.set_append_right _ _ (Nat.le_refl _), Nat.sub_self, List.set_cons_zero]

/-- `copy_within` moves the `k + 1` elements behind `o` one place to the left, over `o`; the last of them still stands at
    its old place, where `v` is stored -/
theorem shift_left (A B : List β) (o v : β) {k : Nat} (hk : k < B.length) :
    (copyWithin (A ++ o :: B) (A.length + 1) (A.length + (k + 1) + 1) A.length).set (A.length + (k + 1)) v =
      (A ++ B).take (A.length + (k + 1)) ++ v :: (A ++ B).drop (A.length + (k + 1)) := by
  have hseg : ((A ++ o :: B).drop (A.length + 1)).take (A.length + (k + 1) + 1 - (A.length + 1)) = B.take (k + 1) := by
    rw [List.drop_length_add_append, Nat.add_sub_add_right, Nat.add_sub_cancel_left]; rfl
  unfold copyWithin
  rw [hseg]
  dsimp only
  rw [List.length_take_of_le hk, List.take_left, List.drop_length_add_append, List.drop_succ_cons,
    List.take_length_add_append, List.drop_length_add_append, List.drop_eq_getElem_cons hk]
  have := set_length_append (A ++ B.take (k + 1)) B[k] v (B.drop (k + 1))
  rwa [List.length_append, List.length_take_of_le hk] at this

/-- the other way: `x :: M` in front of `o` moves one place to the right, over `o`; `x` still stands at its old place, where
    `v` is stored -/
theorem shift_right (L M B : List β) (x o v : β) :
    (copyWithin (L ++ x :: (M ++ o :: B)) L.length (L.length + (M.length + 1)) (L.length + 1)).set L.length v =
      L ++ v :: x :: (M ++ B) := by
  have hseg : ((L ++ x :: (M ++ o :: B)).drop L.length).take (L.length + (M.length + 1) - L.length) = x :: M := by
    rw [List.drop_left, Nat.add_sub_cancel_left]
    exact List.take_left' (l₁ := x :: M) rfl
  unfold copyWithin
  rw [hseg]
  dsimp only
  rw [List.take_length_add_append, Nat.add_assoc, List.drop_length_add_append, Nat.add_comm 1, List.length_cons,
    List.drop_succ_cons, List.drop_length_add_append, List.append_assoc, List.append_assoc]
  exact set_length_append L x v (x :: (M ++ B))

/-- the slice update of `SMM::next` as `SMM.step` has it, the evicted `o` standing at `A.length`: whichever way the elements
    between `o` and the insertion point are shifted, `o` is erased and `v` inserted at `index` -/
theorem shift_set (A B : List β) (o v : β) {index : Nat} (hi : index ≤ (A ++ B).length) :
    (if index > A.length then copyWithin (A ++ o :: B) (A.length + 1) (index + 1) A.length
      else if index < A.length then copyWithin (A ++ o :: B) index A.length (index + 1) else A ++ o :: B).set index v =
    (A ++ B).take index ++ v :: (A ++ B).drop index := by
  rcases Nat.lt_trichotomy index A.length with h | rfl | h
  · obtain ⟨L, x, M, rfl, rfl⟩ : ∃ L x M, A = L ++ x :: M ∧ index = L.length :=
      ⟨_, _, _, (take_getElem_drop h).symm, (List.length_take_of_le h.le).symm⟩
    rw [if_neg (Nat.lt_asymm h), if_pos h, List.length_append, List.length_cons, List.append_assoc, List.append_assoc,
      List.take_left, List.drop_left]
    exact shift_right L M B x o v
  · rw [if_neg (Nat.lt_irrefl _), if_neg (Nat.lt_irrefl _), set_length_append, List.take_left, List.drop_left]
  · obtain ⟨k, rfl⟩ : ∃ k, index = A.length + (k + 1) := ⟨index - A.length - 1, by omega⟩
    rw [if_pos h]
    exact shift_left A B o v (by rw [List.length_append] at hi; omega)

variable [LinearOrder β]

theorem pairwise_sort (l : List β) : (l.mergeSort (fun a b => decide (a ≤ b))).Pairwise (· ≤ ·) :=
  List.pairwise_mergeSort' (· ≤ ·) l

theorem eq_sort_of_perm {s l : List β} (hs : s.Pairwise (· ≤ ·)) (hp : s.Perm l) :
    s = l.mergeSort (fun a b => decide (a ≤ b)) :=
  (hp.trans (List.mergeSort_perm _ _).symm).eq_of_pairwise' hs (pairwise_sort l)

theorem sort_perm (l : List β) : (Spec.sort l).Perm l := List.mergeSort_perm _ _

theorem sort_length (l : List β) : (Spec.sort l).length = l.length := (sort_perm l).length_eq

theorem sorted_pivot {l : List β} (hs : l.Pairwise (· ≤ ·)) {k : Nat} (hk : k < l.length) :
    (∀ y ∈ l.take (k + 1), y ≤ l[k]) ∧ (∀ y ∈ l.drop k, l[k] ≤ y) := by
  rw [← take_getElem_drop hk, List.pairwise_append, List.pairwise_cons] at hs
  rw [← List.take_append_getElem hk, List.drop_eq_getElem_cons hk]
  exact ⟨fun y hy => (List.mem_append.mp hy).elim (hs.2.2 y · _ List.mem_cons_self) fun h => le_of_eq (List.mem_singleton.mp h),
    fun y hy => (List.mem_cons.mp hy).elim (fun h => le_of_eq h.symm) (hs.2.1.1 y)⟩

def InsertPos (l : List β) (value : β) (p : Nat) : Prop :=
  p ≤ l.length ∧ (∀ y ∈ l.take p, y ≤ value) ∧ (∀ y ∈ l.drop p, value ≤ y)

theorem sorted_insert {E : List β} {v : β} {p : Nat} (hs : E.Pairwise (· ≤ ·)) (hp : InsertPos E v p) :
    (E.take p ++ v :: E.drop p).Pairwise (· ≤ ·) := by
  obtain ⟨_, hlo, hhi⟩ := hp
  rw [List.pairwise_append, List.pairwise_cons]
  refine ⟨hs.sublist (List.take_sublist _ _), ⟨hhi, hs.sublist (List.drop_sublist _ _)⟩, fun a ha b hb => ?_⟩
  rcases List.mem_cons.mp hb with rfl | hb
  · exact hlo a ha
  · exact le_trans (hlo a ha) (hhi b hb)

theorem insertPos_append_left {L R : List β} {v : β} {p : Nat} :
    InsertPos (L ++ R) v (L.length + p) ↔ (∀ y ∈ L, y ≤ v) ∧ InsertPos R v p := by
  unfold InsertPos
  rw [List.take_length_add_append, List.drop_length_add_append, List.length_append, Nat.add_le_add_iff_left,
    List.forall_mem_append, and_assoc, and_left_comm]

theorem insertPos_append_right {L R : List β} {v : β} {p : Nat} (hp : p ≤ L.length) :
    InsertPos (L ++ R) v p ↔ InsertPos L v p ∧ ∀ y ∈ R, v ≤ y := by
  unfold InsertPos
  rw [List.take_append_of_le_length hp, List.drop_append_of_le_length hp, List.forall_mem_append, List.length_append,
    and_assoc, and_assoc]
  exact and_congr_left' ⟨fun _ => hp, fun h => Nat.le_trans h (Nat.le_add_right _ _)⟩

/-- the correction `index - (old_index < index) as usize` of `SMM::next`: the insertion point is found with the evicted `o`
    still in the slice -/
theorem InsertPos.erase {A B : List β} {o v : β} {p : Nat} (hp : InsertPos (A ++ o :: B) v p) :
    InsertPos (A ++ B) v (p - if A.length < p then 1 else 0) := by
  by_cases h : A.length < p
  · obtain ⟨q, rfl⟩ : ∃ q, p = A.length + (1 + q) := ⟨p - A.length - 1, by omega⟩
    obtain ⟨hA, hB⟩ := insertPos_append_left.mp hp
    rw [if_pos h, show A.length + (1 + q) - 1 = A.length + q by omega]
    exact insertPos_append_left.mpr ⟨hA, ((insertPos_append_left (L := [o])).mp hB).2⟩
  · have h' : p ≤ A.length := Nat.le_of_not_lt h
    obtain ⟨hA, hB⟩ := (insertPos_append_right h').mp hp
    rw [if_neg h, Nat.sub_zero]
    exact (insertPos_append_right h').mpr ⟨hA, fun y hy => hB y (List.mem_cons_of_mem _ hy)⟩

end Lists

section Search
variable {β : Type} [LinearOrder β] [TotalCmp β]

/-- `total_cmp` is the comparison of a total order on the representation -/
class TotalLike (β : Type) [LinearOrder β] [TotalCmp β] : Prop where
  tcmp_eq : ∀ a b : β, tcmp a b = compare a b

variable [TotalLike β]
open TotalLike

theorem tcmp_eq_iff (a b : β) : tcmp a b = .eq ↔ a = b := by rw [tcmp_eq]; exact compare_eq_iff_eq
theorem tcmp_lt_iff (a b : β) : tcmp a b = .lt ↔ a < b := by rw [tcmp_eq]; exact compare_lt_iff_lt
theorem tcmp_gt_iff (a b : β) : tcmp a b = .gt ↔ b < a := by rw [tcmp_eq]; exact compare_gt_iff_gt

theorem findIndex_spec (fuel : Nat) (value : β) (l : List β) (padding : Nat)
    (hs : l.Pairwise (· ≤ ·)) (hm : value ∈ l) (hf : l.length ≤ fuel) :
    ∃ j, findIndex fuel value l padding = padding + j ∧ l[j]? = some value := by
  induction fuel generalizing l padding with
  | zero =>
    rw [List.eq_nil_of_length_eq_zero (Nat.le_zero.mp hf)] at hm
    cases hm
  | succ fuel ih =>
    unfold findIndex
    by_cases h2 : l.length < 2
    · -- `l` holds `value` and has fewer than two elements: it is `[value]`
      simp only [h2, ↓reduceIte]
      match l, hm with
      | [a], hm => exact ⟨0, rfl, by rw [List.mem_singleton.mp hm]; rfl⟩
    · have hhalf : l.length / 2 < l.length := Nat.div_lt_self (by omega) Nat.one_lt_two
      obtain ⟨hlo, hhi⟩ := sorted_pivot hs hhalf
      simp only [h2, ↓reduceIte, List.getElem?_eq_getElem hhalf]
      cases hc : tcmp value l[l.length / 2] with
      | eq => exact ⟨_, rfl, by rw [List.getElem?_eq_getElem hhalf, (tcmp_eq_iff _ _).mp hc]⟩
      | gt =>
        have hlt := (tcmp_gt_iff _ _).mp hc
        rw [← List.take_append_drop (l.length / 2 + 1) l, List.mem_append] at hm
        obtain ⟨j, hj, hjv⟩ := ih _ (padding + l.length / 2 + 1) (hs.sublist (List.drop_sublist _ _))
          (hm.resolve_left fun h => not_le.mpr hlt (hlo _ h)) (by rw [List.length_drop]; omega)
        exact ⟨l.length / 2 + 1 + j, by rw [hj]; ac_rfl, by rwa [List.getElem?_drop] at hjv⟩
      | lt =>
        have hlt := (tcmp_lt_iff _ _).mp hc
        rw [← List.take_append_drop (l.length / 2) l, List.mem_append] at hm
        obtain ⟨j, hj, hjv⟩ := ih _ padding (hs.sublist (List.take_sublist _ _))
          (hm.resolve_right fun h => not_le.mpr hlt (hhi _ h)) (by rw [List.length_take]; omega)
        rw [List.getElem?_take] at hjv
        split at hjv
        · exact ⟨j, hj, hjv⟩
        · cases hjv

theorem findInsertIndex_spec (fuel : Nat) (value : β) (l : List β) (padding : Nat)
    (hs : l.Pairwise (· ≤ ·)) (hf : l.length ≤ fuel) :
    ∃ p, findInsertIndex fuel value l padding = padding + p ∧ InsertPos l value p := by
  have hnil : InsertPos [] value 0 := by simp [InsertPos]
  induction fuel generalizing l padding with
  | zero =>
    rw [List.eq_nil_of_length_eq_zero (Nat.le_zero.mp hf)]
    exact ⟨0, rfl, hnil⟩
  | succ fuel ih =>
    unfold findInsertIndex
    cases l with
    | nil => exact ⟨0, rfl, hnil⟩
    | cons a t =>
      have hhalf : (a :: t).length / 2 < (a :: t).length := Nat.div_lt_self (Nat.succ_pos _) Nat.one_lt_two
      have he : (a :: t).isEmpty = false := rfl
      generalize a :: t = l at *
      obtain ⟨hlo, hhi⟩ := sorted_pivot hs hhalf
      simp only [he, Bool.false_eq_true, ↓reduceIte, List.getElem?_eq_getElem hhalf]
      cases hc : tcmp value l[l.length / 2] with
      | eq =>
        have hv := (tcmp_eq_iff _ _).mp hc
        exact ⟨l.length / 2, rfl, hhalf.le, fun y hy => hv ▸ hlo y (List.take_subset_take_left l (Nat.le_succ _) hy),
          fun y hy => hv ▸ hhi y hy⟩
      | gt =>
        -- the first `half + 1` elements are below `value`, the recursion finds the place among the others
        have hlt := (tcmp_gt_iff _ _).mp hc
        obtain ⟨p, hp, hpos⟩ := ih (l.drop (l.length / 2 + 1)) (padding + l.length / 2 + 1)
          (hs.sublist (List.drop_sublist _ _)) (by rw [List.length_drop]; omega)
        have := insertPos_append_left.mpr ⟨fun y hy => le_of_lt (lt_of_le_of_lt (hlo y hy) hlt), hpos⟩
        rw [List.take_append_drop, List.length_take_of_le hhalf] at this
        exact ⟨l.length / 2 + 1 + p, by rw [hp]; ac_rfl, this⟩
      | lt =>
        -- the elements from `half` on are above `value`, the recursion finds the place among the first `half`
        have hlt := (tcmp_lt_iff _ _).mp hc
        obtain ⟨p, hp, hpos⟩ := ih (l.take (l.length / 2)) padding
          (hs.sublist (List.take_sublist _ _)) (by rw [List.length_take]; omega)
        have := (insertPos_append_right hpos.1).mpr ⟨hpos, fun y hy => le_of_lt (lt_of_lt_of_le hlt (hhi y hy))⟩
        rw [List.take_append_drop] at this
        exact ⟨p, hp, this⟩

end Search

namespace SMM
section
variable {β : Type} [LinearOrder β] {P : Nat}

structure Inv (P : Nat) (s : SMM β) : Prop where
  winv : Window.Inv P s.window
  pos : 0 < s.window.size
  sorted : s.slice.Pairwise (· ≤ ·)
  perm : s.slice.Perm (Window.toList s.window)

theorem slice_eq_sort {s : SMM β} (h : Inv P s) :
    s.slice = (Window.toList s.window).mergeSort (fun a b => decide (a ≤ b)) :=
  eq_sort_of_perm h.sorted h.perm

/-- the state reached from `SMM.new P n v` by the inputs `h` -/
structure Run (P n : Nat) (v : β) (h : List β) (s : SMM β) : Prop where
  inv : Inv P s
  window : Window.toList s.window = lastN n (history n v h)
  half : s.half = n / 2
  half_m1 : s.half_m1 = n / 2 - (if n % 2 = 0 then 1 else 0)

theorem Run.new {n : Nat} (v : β) (hn0 : 0 < n) (hn : n ≤ P - 1) : ∃ s, SMM.new P n v = .ok s ∧ Run P n v [] s := by
  obtain ⟨w, hw, ht⟩ := Tracks.new (P := P) v hn
  have hwin : Window.toList w = List.replicate n v := ht.contents.trans (lastN_history_nil n v)
  refine ⟨{ half := n / 2, half_m1 := satSub (n / 2) (if n % 2 = 0 then 1 else 0), window := w, slice := List.replicate n v },
    by rw [SMM.new, if_neg (not_zero_or_max hn0 hn)]; dsimp only; rw [hw]; rfl, ?_⟩
  exact {
    inv := {
      winv := ht.inv
      pos := ht.size ▸ hn0
      sorted := List.pairwise_replicate.mpr (Or.inr (le_refl v))
      perm := .of_eq hwin.symm }
    window := ht.contents
    half := rfl
    half_m1 := rfl }

theorem Run.slice {n : Nat} {v : β} {h : List β} {s : SMM β} (r : Run P n v h s) :
    s.slice = (lastN n (history n v h)).mergeSort (fun a b => decide (a ≤ b)) :=
  r.window ▸ slice_eq_sort r.inv

theorem Run.mid {n : Nat} {v : β} {h : List β} {s : SMM β} (hn0 : 0 < n) (r : Run P n v h s) :
    ∃ a b, s.mid = .ok (a, b) ∧ s.slice[n / 2]? = some a ∧ s.slice[n / 2 - (if n % 2 = 0 then 1 else 0)]? = some b := by
  have hlen : s.slice.length = n := by rw [r.inv.perm.length_eq, r.window, win_length]
  have ha : n / 2 < s.slice.length := hlen.symm ▸ Nat.div_lt_self hn0 (by decide)
  have hb : n / 2 - (if n % 2 = 0 then 1 else 0) < s.slice.length := Nat.lt_of_le_of_lt (Nat.sub_le _ _) ha
  refine ⟨_, _, ?_, List.getElem?_eq_getElem ha, List.getElem?_eq_getElem hb⟩
  unfold SMM.mid
  rw [r.half, r.half_m1, List.getElem?_eq_getElem ha, List.getElem?_eq_getElem hb]

theorem Run.median {K : Type} [Field K] [LinearOrder K] {n : Nat} {v : K} {h : List K} {s : SMM K} (hn0 : 0 < n)
    (r : Run P n v h s) : ∃ a b, s.mid = .ok (a, b) ∧ (a + b) * (1 / ((2 : Nat) : K)) = Spec.smm n v h := by
  obtain ⟨a, b, hmid, ha, hb⟩ := r.mid hn0
  rw [r.slice] at ha hb
  have hidx : (if n % 2 = 0 then n / 2 - 1 else n / 2) = n / 2 - (if n % 2 = 0 then 1 else 0) := by split <;> omega
  refine ⟨a, b, hmid, ?_⟩
  simp only [Spec.smm, Spec.win, Spec.median, Spec.sort, win_length, hidx, ha, hb, Option.getD_some]

variable [TotalCmp β] [TotalLike β]

theorem step_spec {s : SMM β} (value : β) (h : Inv P s) :
    ∃ s', s.step value = .ok s' ∧ Inv P s' ∧
      Window.toList s'.window = (Window.toList s.window).tail ++ [value] ∧ s'.half = s.half ∧ s'.half_m1 = s.half_m1 := by
  obtain ⟨old, t, w', hat, hp, hinv', hsz, htl⟩ := Window.push_cons value h.winv h.pos
  have hsorted := h.sorted
  have hperm := h.perm
  rw [hat] at hperm ⊢
  obtain ⟨j, hj, hjv⟩ := findIndex_spec (s.slice.length + 1) old s.slice 0 hsorted
    (hperm.mem_iff.mpr List.mem_cons_self) (Nat.le_succ _)
  obtain ⟨p, hpp, hpos⟩ := findInsertIndex_spec (s.slice.length + 1) value s.slice 0 hsorted (Nat.le_succ _)
  rw [Nat.zero_add] at hj hpp
  -- the slice around the evicted element: what remains is sorted, holds the rest of the window, and has a place for `value`
  obtain ⟨A, B, hl, rfl⟩ : ∃ A B, s.slice = A ++ old :: B ∧ A.length = j := by
    obtain ⟨hjlt, rfl⟩ := List.getElem?_eq_some_iff.mp hjv
    exact ⟨_, _, (take_getElem_drop hjlt).symm, List.length_take_of_le hjlt.le⟩
  rw [hl] at hpos hsorted hperm
  have hE := hpos.erase
  have hEs : (A ++ B).Pairwise (· ≤ ·) := hsorted.sublist ((List.Sublist.refl A).append (List.sublist_cons_self old B))
  have hEp : (A ++ B).Perm t := (List.perm_middle.symm.trans hperm).cons_inv
  refine ⟨{ s with window := w', slice := _ }, ?_, ⟨hinv', hsz ▸ h.pos, sorted_insert hEs hE, ?_⟩, htl, rfl, rfl⟩
  · have hc : ¬ (p - (if A.length < p then 1 else 0) ≥ (A ++ old :: B).length ∨ A.length ≥ (A ++ old :: B).length) := by
      have := hE.1
      simp only [List.length_append, List.length_cons] at this ⊢
      omega
    unfold SMM.step
    simp only [hp, hj, hpp]
    rw [hl, if_neg hc, shift_set A B old value hE.1]
  · rw [htl]
    exact (List.perm_middle.trans (by rw [List.take_append_drop]; exact hEp.cons value)).trans
      (List.perm_append_singleton value t).symm

theorem Run.step {n : Nat} {v : β} {h : List β} {s : SMM β} (hn0 : 0 < n) (r : Run P n v h s) (x : β) :
    ∃ s', s.step x = .ok s' ∧ Run P n v (h ++ [x]) s' := by
  obtain ⟨s', hst, hi, ht, h1, h2⟩ := step_spec x r.inv
  exact ⟨s', hst, hi, lastN_history_push hn0 v h x r.window ht, h1.trans r.half, h2.trans r.half_m1⟩

end
end SMM

section
variable {β : Type} [LinearOrder β] [TotalCmp β] [TotalLike β] {P : Nat}

theorem SMM.new_indices {n : Nat} (v : β) (s : SMM β) (h : SMM.new P n v = .ok s) :
    s.half = n / 2 ∧ s.half_m1 = satSub (n / 2) (if n % 2 = 0 then 1 else 0) := by
  unfold SMM.new at h
  split at h
  · cases h
  · obtain ⟨w, _, h⟩ := Res.bind_eq_ok h
    cases h
    exact ⟨rfl, rfl⟩
end

/-- `ℚ` is the driver's scalar for the indicators; its `tcmp` is the numeric comparison -/
instance : TotalLike ℚ where
  tcmp_eq a b := by
    show (if a < b then Ordering.lt else if b < a then Ordering.gt else Ordering.eq) = compare a b
    rcases lt_trichotomy a b with h | h | h
    · rw [if_pos h, compare_lt_iff_lt.mpr h]
    · subst h; simp
    · rw [if_neg (not_lt.mpr (le_of_lt h)), if_pos h, compare_gt_iff_gt.mpr h]

end Yata
