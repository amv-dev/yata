/-
  Generic laws of the runner (`over`, chunking, lifting of step invariants) and inversion of the `bind`s of constructors
  (`Res`) and steps (`Except`) — core Lean only.
-/
import YataModel.Runner
namespace Yata
variable {σ ι ο : Type}

theorem Res.ite_eq_ok {β : Type} {c : Prop} [Decidable c] {r : Res β} {e : Err} {s : β}
    (h : (if c then r else .err e) = .ok s) : c ∧ r = .ok s := by
  split at h
  · exact ⟨‹c›, h⟩
  · cases h

theorem Res.bind_eq_ok {β γ : Type} {r : Res β} {f : β → Res γ} {s : γ} (h : r.bind f = .ok s) :
    ∃ x, r = .ok x ∧ f x = .ok s := by
  cases r with
  | ok v => exact ⟨v, rfl, h⟩
  | err e => cases h
  | panic p => cases h

theorem Except.bind_eq_ok {ε α β : Type} {x : Except ε α} {f : α → Except ε β} {b : β} (h : x >>= f = .ok b) :
    ∃ a, x = .ok a ∧ f a = .ok b := by
  cases x with
  | error e => cases h
  | ok a => exact ⟨a, rfl, h⟩

theorem runM_nil (next : σ → ι → Except Panic (ο × σ)) (s : σ) : runM next s [] = .ok ([], s) := rfl

theorem runM_cons_ok (next : σ → ι → Except Panic (ο × σ)) (s : σ) (x : ι) (xs : List ι) (os : List ο) (s' : σ) :
    runM next s (x :: xs) = .ok (os, s') ↔
      ∃ o s1 os1, next s x = .ok (o, s1) ∧ runM next s1 xs = .ok (os1, s') ∧ os = o :: os1 := by
  simp only [runM]
  cases next s x with
  | error e => simp
  | ok p =>
    obtain ⟨o, s1⟩ := p
    dsimp only
    constructor
    · intro h
      cases hr : runM next s1 xs with
      | error e => rw [hr] at h; cases h
      | ok q => rw [hr] at h; cases h; exact ⟨o, s1, q.1, rfl, hr, rfl⟩
    · rintro ⟨_, _, os1, ⟨⟩, h2, rfl⟩; rw [h2]

theorem runM_append (next : σ → ι → Except Panic (ο × σ)) (s : σ) (xs ys : List ι) :
    runM next s (xs ++ ys) =
      match runM next s xs with
      | .error e => .error e
      | .ok (os, s') =>
        match runM next s' ys with
        | .error e => .error e
        | .ok (os', s'') => .ok (os ++ os', s'') := by
  induction xs generalizing s with
  | nil => simp only [List.nil_append, runM]; cases runM next s ys <;> rfl
  | cons x xs ih =>
    simp only [List.cons_append, runM, ih]
    cases next s x with
    | error e => rfl
    | ok p =>
      obtain ⟨o, s1⟩ := p
      dsimp only
      cases runM next s1 xs with
      | error e => rfl
      | ok q => obtain ⟨os, s2⟩ := q; dsimp only; cases runM next s2 ys <;> rfl

theorem runM_length (next : σ → ι → Except Panic (ο × σ)) (s : σ) (xs : List ι) {os : List ο} {s' : σ}
    (h : runM next s xs = .ok (os, s')) : os.length = xs.length := by
  induction xs generalizing s os with
  | nil => cases h; rfl
  | cons x xs ih =>
    obtain ⟨o, s1, os1, -, hr, rfl⟩ := (runM_cons_ok ..).1 h
    rw [List.length_cons, ih s1 hr, List.length_cons]

/-- `h` is everything the instance has been given so far; `Inv h s` relates it to the state, `Out h o` to the output
    of the step that consumed the last element of `h`; `Good` restricts the inputs. -/
theorem runM_invariant_on (next : σ → ι → Except Panic (ο × σ)) (Good : ι → Prop)
    (Inv : List ι → σ → Prop) (Out : List ι → ο → Prop)
    (hstep : ∀ h s x, Good x → Inv h s → ∃ o s', next s x = .ok (o, s') ∧ Inv (h ++ [x]) s' ∧ Out (h ++ [x]) o) :
    ∀ (xs : List ι) (h : List ι) (s : σ), (∀ x ∈ xs, Good x) → Inv h s →
      ∃ os s', runM next s xs = .ok (os, s') ∧ Inv (h ++ xs) s' ∧ os.length = xs.length ∧
        ∀ i (hi : i < os.length), Out (h ++ xs.take (i + 1)) os[i] := by
  intro xs
  induction xs with
  | nil => intro h s _ hinv; exact ⟨[], s, rfl, by simpa using hinv, rfl, by simp⟩
  | cons x xs ih =>
    intro h s hg hinv
    obtain ⟨o, s1, hn, hinv1, hout⟩ := hstep h s x (hg x List.mem_cons_self) hinv
    obtain ⟨os, s2, hr, hinv2, hlen, houts⟩ := ih (h ++ [x]) s1 (fun y hy => hg y (List.mem_cons_of_mem x hy)) hinv1
    refine ⟨o :: os, s2, (runM_cons_ok ..).2 ⟨o, s1, os, hn, hr, rfl⟩, by simpa using hinv2, by simp [hlen], ?_⟩
    intro i hi
    cases i with
    | zero => simpa using hout
    | succ j => simpa using houts j (by simpa using hi)

theorem runM_invariant (next : σ → ι → Except Panic (ο × σ))
    (Inv : List ι → σ → Prop) (Out : List ι → ο → Prop)
    (hstep : ∀ h s x, Inv h s → ∃ o s', next s x = .ok (o, s') ∧ Inv (h ++ [x]) s' ∧ Out (h ++ [x]) o) :
    ∀ (xs : List ι) (h : List ι) (s : σ), Inv h s →
      ∃ os s', runM next s xs = .ok (os, s') ∧ Inv (h ++ xs) s' ∧ os.length = xs.length ∧
        ∀ i (hi : i < os.length), Out (h ++ xs.take (i + 1)) os[i] :=
  fun xs h s hi =>
    runM_invariant_on next (fun _ => True) Inv Out (fun h s x _ => hstep h s x) xs h s (fun _ _ => trivial) hi

theorem foldlM_invariant {σ ι : Type} (step : σ → ι → Except Panic σ) (I : List ι → σ → Prop)
    (hstep : ∀ h s x, I h s → ∃ s', step s x = .ok s' ∧ I (h ++ [x]) s') :
    ∀ (xs h : List ι) (s : σ), I h s → ∃ s', xs.foldlM step s = .ok s' ∧ I (h ++ xs) s' := by
  intro xs
  induction xs with
  | nil => intro h s hi; exact ⟨s, rfl, by rwa [List.append_nil]⟩
  | cons x t ih =>
    intro h s hi
    obtain ⟨s1, hst, hi1⟩ := hstep h s x hi
    obtain ⟨s', hf, hi'⟩ := ih (h ++ [x]) s1 hi1
    exact ⟨s', by rw [List.foldlM_cons, hst]; exact hf, by rwa [List.append_cons]⟩

theorem runM_from (next : σ → ι → Except Panic (ο × σ))
    (Inv : List ι → σ → Prop) (Out : List ι → ο → Prop) {s0 : σ} (h0 : Inv [] s0)
    (hstep : ∀ h s x, Inv h s → ∃ o s', next s x = .ok (o, s') ∧ Inv (h ++ [x]) s' ∧ Out (h ++ [x]) o)
    (xs : List ι) :
    ∃ os s', runM next s0 xs = .ok (os, s') ∧ os.length = xs.length ∧
      ∀ i (hi : i < os.length), Out (xs.take (i + 1)) os[i] := by
  obtain ⟨os, s', hr, _, hlen, hout⟩ := runM_invariant next Inv Out hstep xs [] s0 h0
  exact ⟨os, s', hr, hlen, hout⟩

theorem runM_from_mem (next : σ → ι → Except Panic (ο × σ)) (Good : ι → Prop)
    (Inv : List ι → σ → Prop) (Out : ο → Prop) {s0 : σ} (h0 : Inv [] s0)
    (hstep : ∀ h s x, Good x → Inv h s → ∃ o s', next s x = .ok (o, s') ∧ Inv (h ++ [x]) s' ∧ Out o)
    (xs : List ι) (hg : ∀ x ∈ xs, Good x) :
    ∃ os s', runM next s0 xs = .ok (os, s') ∧ os.length = xs.length ∧ ∀ o ∈ os, Out o := by
  obtain ⟨os, s', hr, _, hlen, hout⟩ := runM_invariant_on next Good Inv (fun _ => Out) hstep xs [] s0 hg h0
  exact ⟨os, s', hr, hlen, List.forall_mem_iff_forall_getElem.2 hout⟩

theorem method_run (new : Res σ) (next : σ → ι → Except Panic (ο × σ))
    (Inv : List ι → σ → Prop) (Out : List ι → ο → Prop) (hnew : ∃ s, new = .ok s ∧ Inv [] s)
    (hstep : ∀ h s x, Inv h s → ∃ o s', next s x = .ok (o, s') ∧ Inv (h ++ [x]) s' ∧ Out (h ++ [x]) o)
    (xs : List ι) :
    ∃ s0 os s', new = .ok s0 ∧ runM next s0 xs = .ok (os, s') ∧ os.length = xs.length ∧
      ∀ i (hi : i < os.length), Out (xs.take (i + 1)) os[i] := by
  obtain ⟨s0, hn, h0⟩ := hnew
  obtain ⟨os, s', hr⟩ := runM_from next Inv Out h0 hstep xs
  exact ⟨s0, os, s', hn, hr⟩

theorem method_spec {σ ι ο : Type} (new : Res σ) (next : σ → ι → Except Panic (ο × σ))
    (Inv : List ι → σ → Prop) (spec : List ι → ο)
    (hnew : ∃ s, new = .ok s ∧ Inv [] s)
    (hstep : ∀ h s x, Inv h s → ∃ o s', next s x = .ok (o, s') ∧ Inv (h ++ [x]) s' ∧ o = spec (h ++ [x]))
    (xs : List ι) :
    ∃ s0 outs s', new = .ok s0 ∧ runM next s0 xs = .ok (outs, s') ∧ outs.length = xs.length ∧
      ∀ i (hi : i < outs.length), outs[i] = spec (xs.take (i + 1)) :=
  method_run new next Inv (fun h o => o = spec h) hnew hstep xs

theorem liftNext_spec (next : σ → ι → ο × σ) (st : List ι → σ) (out : List ι → ο)
    (hstep : ∀ h x, next (st h) x = (out (h ++ [x]), st (h ++ [x]))) (xs : List ι) :
    ∃ outs, runM (liftNext next) (st []) xs = .ok (outs, st xs) ∧ outs.length = xs.length ∧
      ∀ i (hi : i < outs.length), outs[i] = out (xs.take (i + 1)) := by
  obtain ⟨os, s', hr, hinv, hlen, houts⟩ :=
    runM_invariant (liftNext next) (fun h s => s = st h) (fun h o => o = out h)
      (fun h s x hs => ⟨_, _, by rw [hs, liftNext, hstep], rfl, rfl⟩) xs [] (st []) rfl
  simp only [List.nil_append] at hinv houts
  exact ⟨os, by rw [hr, hinv], hlen, houts⟩

theorem runM_map_state {σ τ ι ο : Type} (next : σ → ι → Except Panic (ο × σ)) (next' : τ → ι → Except Panic (ο × τ))
    (g : σ → τ) (h : ∀ s x, next' (g s) x = (next s x).map fun p => (p.1, g p.2)) (s : σ) (xs : List ι) :
    runM next' (g s) xs = (runM next s xs).map fun p => (p.1, g p.2) := by
  induction xs generalizing s with
  | nil => rfl
  | cons x xs ih =>
    simp only [runM, h]
    cases next s x with
    | error e => rfl
    | ok p => simp only [Except.map, ih]; cases runM next p.2 xs <;> rfl

theorem newOver_nil (new : ι → Res σ) (next : σ → ι → Except Panic (ο × σ)) :
    newOver new next [] = .ok [] := rfl

theorem withHistory_run (next : σ → ι → Except Panic (ο × σ)) (s : σ) (pre : List ο) (xs : List ι)
    {os : List ο} {s' : σ} (hr : runM next s xs = .ok (os, s')) :
    runM (WithHistory.next next) { history := pre, instance_ := s } xs =
      .ok (os, { history := pre ++ os, instance_ := s' }) := by
  induction xs generalizing s pre os with
  | nil => cases hr; simp [runM]
  | cons x xs ih =>
    obtain ⟨o, s1, os1, hn, hr1, rfl⟩ := (runM_cons_ok ..).1 hr
    refine (runM_cons_ok ..).2 ⟨o, _, os1, by simp only [WithHistory.next, hn]; rfl, ?_, rfl⟩
    simpa using ih s1 (pre ++ [o]) hr1

theorem withHistory_get (w : WithHistory σ ο) (i : Nat) : w.get i = w.history.reverse[i]? := by
  unfold WithHistory.get checkedSub
  by_cases h : i + 1 ≤ w.history.length
  · simp only [h, ↓reduceIte]
    rw [List.getElem?_reverse (by omega)]
    congr 1; omega
  · simp only [h, ↓reduceIte]
    rw [List.getElem?_eq_none]; simp; omega

end Yata
