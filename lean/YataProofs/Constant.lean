/-
  The construction value acts as an infinite constant prehistory (C08), at the level of the
  from-scratch specs that the machines are proved equal to (C02–C04):
    * extra leading copies of the construction value do not change the window (`win_prefix_invariant`, Numeric/Common);
    * on constant input every spec returns its fixed value: every average because it preserves ranges (`Hull.constant`:
      take `lo = hi = v`) or commutes with affine maps (`Affine.constant`: take `a = 0`), the windowed sum `n·v`.
-/
import YataProofs.MALaws
namespace Yata
variable {K : Type}

theorem series_constant (f : List K → K) (v : K) (hf : ∀ k, f (List.replicate k v) = v) (k : Nat) :
    Spec.series f (List.replicate k v) = List.replicate k v := by
  induction k with
  | zero => rfl
  | succ k ih => rw [List.replicate_succ', series_snoc, ih, ← List.replicate_succ', hf, List.replicate_succ']

variable [Field K]

theorem integral_constant (n k : Nat) (v : K) : Spec.integral n v (List.replicate k v) = (n : K) * v := by
  simp only [Spec.integral, Spec.win, win_constant, sum_replicate_field]

theorem emaRec_constant (a v : K) (k : Nat) : Spec.emaRec a v (List.replicate k v) = v := (emaRec_affine a).constant v k

theorem e1_constant (a v : K) (k : Nat) : e1 a v (List.replicate k v) = v := (e1_affine a).constant v k

theorem e2_constant (a v : K) (k : Nat) : e2 a v (List.replicate k v) = v := (e2_affine a).constant v k

theorem e3_constant (a v : K) (k : Nat) : e3 a v (List.replicate k v) = v := (e3_affine a).constant v k

variable [LinearOrder K] [IsStrictOrderedRing K]

theorem sma_constant (n k : Nat) (hn : 0 < n) (v : K) : Spec.sma n v (List.replicate k v) = v :=
  (sma_average n hn).hull.constant v k

theorem wma_constant (n k : Nat) (hn : 0 < n) (v : K) : Spec.wma n v (List.replicate k v) = v :=
  (wma_average n hn).hull.constant v k

end Yata
