/-
  One candle (src/core/ohlcv.rs): `clv`, `tp`, `hl2`, `ohlc4`, `volumed_price` as formulas, `validate` as a conjunction of
  inequalities, CLV within [−1, 1], the true range non-negative, `ohlc4` of a valid candle between its `low` and `high`;
  and what folding `Candle::add` (src/core/candles.rs) over a list leaves in each field.
-/
import YataModel.Candle
import YataProofs.Scalar
import Mathlib.Tactic.NormNum
namespace Yata
variable {K : Type} [Field K] [LinearOrder K]

namespace Candle

theorem clv_eq (c : Candle K) :
    c.clv = if c.high = c.low then 0 else ((c.close - c.low) - (c.high - c.close)) / (c.high - c.low) := by
  unfold clv
  split
  · rfl
  · congr 1; push_cast; ring

theorem validateFinite_iff (c : Candle K) :
    c.validateFinite = true ↔
      (c.low ≤ c.open_ ∧ c.open_ ≤ c.high ∧ c.low ≤ c.close ∧ c.close ≤ c.high ∧
       0 < c.open_ ∧ 0 < c.high ∧ 0 < c.low ∧ 0 < c.close ∧ 0 ≤ c.volume) := by
  simp only [validateFinite, Bool.and_eq_true, Bool.not_eq_eq_eq_not, Bool.not_true, Bool.or_eq_false_iff,
    decide_eq_false_iff_not, decide_eq_true_eq, not_lt, and_assoc]
  -- the left side is now flat, in the order of the code: close ≤ high, low ≤ close, low ≤ high, open ≤ high, low ≤ open,
  -- then 0 < close, open, high, low and 0 ≤ volume; the third test follows from the two before it
  constructor
  · rintro ⟨ch, lc, -, oh, lo, c0, o0, h0, l0, v0⟩
    exact ⟨lo, oh, lc, ch, o0, h0, l0, c0, v0⟩
  · rintro ⟨lo, oh, lc, ch, o0, h0, l0, c0, v0⟩
    exact ⟨ch, lc, lc.trans ch, oh, lo, c0, o0, h0, l0, v0⟩

theorem foldl_add (x : Candle K) (xs : List (Candle K)) :
    let r := xs.foldl Candle.add x
    r.open_ = x.open_ ∧ r.close = ((x :: xs).getLast (by simp)).close ∧
    r.high = (xs.map (·.high)).foldl max x.high ∧ r.low = (xs.map (·.low)).foldl min x.low ∧
    r.volume = x.volume + (xs.map (·.volume)).sum := by
  induction xs generalizing x with
  | nil => simp
  | cons y t ih =>
    have := ih (x.add y)
    simp only [List.foldl_cons, List.map_cons, List.sum_cons] at this ⊢
    obtain ⟨h1, h2, h3, h4, h5⟩ := this
    refine ⟨by rw [h1]; rfl, ?_, ?_, ?_, ?_⟩
    · rw [h2]
      cases t with
      | nil => simp [add]
      | cons z t' => simp
    · rw [h3]; simp [add, smax_eq_max]
    · rw [h4]; simp [add, smin_eq_min]
    · rw [h5]; simp [add]; ring

variable [IsStrictOrderedRing K]

theorem clv_range (c : Candle K) (h1 : c.low ≤ c.close) (h2 : c.close ≤ c.high) : -1 ≤ c.clv ∧ c.clv ≤ 1 := by
  rw [clv_eq]
  -- both parts, close − low and high − close, lie between 0 and the range
  exact zero_or_quot_range _ (abs_sub_le_of_nonneg_of_le (sub_nonneg.2 h1) (sub_le_sub_right h2 _) (sub_nonneg.2 h2)
    (sub_le_sub_left h1 _))

theorem trClose_nonneg (c : Candle K) (p : K) (h : c.low ≤ c.high) : 0 ≤ c.trClose p := by
  unfold Candle.trClose
  rw [smax_eq_max, smin_eq_min]
  exact sub_nonneg.2 ((min_le_left _ _).trans (h.trans (le_max_left _ _)))

theorem formulas (c : Candle K) :
    c.tp = (c.high + c.low + c.close) / 3 ∧ c.hl2 = (c.high + c.low) / 2 ∧
    c.ohlc4 = (c.high + c.low + c.close + c.open_) / 4 ∧ c.volumedPrice = (c.high + c.low + c.close) / 3 * c.volume :=
  ⟨by rw [tp, Nat.cast_ofNat], by rw [hl2, Nat.cast_ofNat, mul_one_div], by rw [ohlc4, Nat.cast_ofNat, mul_one_div],
    by rw [volumedPrice, tp, Nat.cast_ofNat]⟩

theorem ohlc4_mem (c : Candle K) (hv : c.validateFinite = true) :
    c.low ≤ c.ohlc4 ∧ c.ohlc4 ≤ c.high ∧ 0 < c.ohlc4 := by
  obtain ⟨h1, h2, h3, h4, -, -, h7, -, -⟩ := (validateFinite_iff c).1 hv
  have hlh := h3.trans h4
  -- four prices, each between `low` and `high`
  have e : ∀ x : K, x * 4 = x + x + x + x := fun x => by ring
  have hl : c.low ≤ c.ohlc4 := by
    rw [(formulas c).2.2.1, le_div_iff₀ (by norm_num), e]
    exact add_le_add (add_le_add (add_le_add hlh le_rfl) h3) h1
  refine ⟨hl, ?_, h7.trans_le hl⟩
  rw [(formulas c).2.2.1, div_le_iff₀ (by norm_num), e]
  exact add_le_add (add_le_add (add_le_add le_rfl hlh) h4) h2

end Candle
end Yata
