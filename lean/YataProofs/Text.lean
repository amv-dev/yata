/-
  Textual forms (`FromStr for MA`, Rust's unsigned-integer grammar): what is written out parses back.
-/
import YataModel.Text
namespace Yata
namespace Text

theorem ofName_name_no_dash : ∀ k ∈ MAKind.all, MAKind.ofName k.name = some k ∧ '-' ∉ k.name := by decide +kernel

theorem splitOnce_append (sep : Char) (a b : List Char) (h : sep ∉ a) :
    splitOnce sep (a ++ sep :: b) = some (a, b) := by
  induction a with
  | nil => simp [splitOnce]
  | cons c t ih =>
    have hc : c ≠ sep := fun e => h (by simp [e])
    have ht : sep ∉ t := fun e => h (by simp [e])
    simp [splitOnce, hc, ih ht]

theorem digitsVal_append (P : Nat) (l l' : List Char) (acc : Nat) :
    digitsVal P (l ++ l') acc = (digitsVal P l acc).bind (digitsVal P l') := by
  induction l generalizing acc with
  | nil => rfl
  | cons d t ih =>
    simp only [List.cons_append, digitsVal]
    split
    · split
      · rfl
      · exact ih _
    · rfl

theorem digitsVal_digitChar {P d a : Nat} (hd : d < 10) (h : a * 10 + d ≤ P) :
    digitsVal P [d.digitChar] a = some (a * 10 + d) := by
  have : ∀ d < 10, isDigit d.digitChar = true ∧ d.digitChar.toNat - '0'.toNat = d := by decide
  simp only [digitsVal, (this d hd).1, (this d hd).2, if_true, if_neg (Nat.not_lt.2 h)]

theorem digitsVal_toDigits (P : Nat) : ∀ n, n ≤ P → digitsVal P (Nat.toDigits 10 n) 0 = some n := by
  intro n
  induction n using Nat.strongRecOn with
  | _ n ih =>
    intro hn
    rw [Nat.toDigits_eq_if (by decide)]
    split
    · rename_i h; simpa using digitsVal_digitChar (a := 0) h (by omega)
    · rw [digitsVal_append, ih (n / 10) (by omega) (by omega), Option.bind_some,
        digitsVal_digitChar (Nat.mod_lt _ (by decide)) (by omega)]
      congr 1; omega

theorem parseUInt_of_digitsVal {P n : Nat} {l : List Char} (hl : l ≠ []) (h : digitsVal P l 0 = some n) :
    parseUInt P l = some n := by
  cases l with
  | nil => exact absurd rfl hl
  | cons c t =>
    by_cases hc : c = '+'
    · subst hc; simp [digitsVal, isDigit] at h
    · unfold parseUInt
      split
      · rename_i heq; exact absurd (List.cons.inj heq).1 hc
      · exact h

theorem parse_digits (P n : Nat) (hn : n ≤ P) : parseUInt P (natDigits n) = some n := by
  have e : natDigits n = Nat.toDigits 10 n := String.toList_ofList
  rw [e]
  exact parseUInt_of_digitsVal Nat.toDigits_ne_nil (digitsVal_toDigits P n hn)

theorem ma_roundtrip_any (P : Nat) (k : MAKind) (n : Nat) (hn : n ≤ P) :
    parseMA P (k.name ++ '-' :: natDigits n) = some { kind := k, length := n } := by
  have hk := ofName_name_no_dash k (by cases k <;> decide)
  simp [parseMA, splitOnce_append '-' k.name (natDigits n) hk.2, parse_digits P n hn, hk.1]

end Text
end Yata
