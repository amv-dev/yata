/-
  LowerReversalSignal is UpperReversalSignal over the reversed order `Kᵒᵈ` (by unfolding), so its facts are those of
  YataProofs/Reversal.lean read at `Kᵒᵈ`.
-/
import YataProofs.Reversal
namespace Yata
variable {K : Type} [LinearOrder K]

def LastMinAt (i : Nat) (v : K) (off : Nat) (l : List K) : Prop :=
  off ≤ i ∧ l[i - off]? = some v ∧ (∀ y ∈ l, v ≤ y) ∧ (∀ j y, i - off < j → l[j]? = some y → v < y)

theorem lastMinAt_iff_dual {i : Nat} {v : K} {off : Nat} {l : List K} :
    LastMinAt i v off l ↔ LastMaxAt (K := Kᵒᵈ) i v off l := Iff.rfl

section
variable {K : Type} [Field K] [LinearOrder K] [IsStrictOrderedRing K]
/-- over an ordered field, as C14 states it (`C14_newest_min_unique`); only the order is used -/
theorem LastMinAt.unique {i i' : Nat} {v v' : K} {off : Nat} {l : List K}
    (h : LastMinAt i v off l) (h' : LastMinAt i' v' off l) : i = i' ∧ v = v' :=
  LastMaxAt.eq (K := Kᵒᵈ) h h'
end

def virtMin (v : K) : List K → List K
  | [] => []
  | x0 :: r => (if x0 ≤ v then x0 else v) :: r

theorem virtMin_eq_dual (v : K) (xs : List K) : virtMin v xs = virt (K := Kᵒᵈ) v xs := by
  cases xs <;> rfl

namespace LowerReversalSignal

/-- first position still covered by the window after `n` inputs -/
def firstPos (len n : Nat) : Nat := n - len

def toUpper {K : Type} (s : LowerReversalSignal K) : UpperReversalSignal Kᵒᵈ :=
  ⟨s.left, s.right, s.min_value, s.min_index, s.index, s.window⟩
def ofUpper {K : Type} (s : UpperReversalSignal Kᵒᵈ) : LowerReversalSignal K :=
  ⟨s.left, s.right, s.max_value, s.max_index, s.index, s.window⟩

theorem next_eq_dual {K : Type} [LE K] [DecidableLE K] (s : LowerReversalSignal K) (x : K) :
    s.next x = (s.toUpper.next x).map fun p => (p.1, ofUpper p.2) := by
  unfold LowerReversalSignal.next UpperReversalSignal.next toUpper OrderDual
  cases s.window.push x with
  | error e => rfl
  | ok p =>
    have hd : (@LE.le K (OrderDual.instLE K) s.min_value x) = (x ≤ s.min_value) := rfl
    simp only [hd]
    by_cases hsc : s.min_index < s.index + 1 - p.2.len
    · simp only [hsc, ↓reduceIte]
      cases p.2.oldest <;> cases p.2.iterRevCollect (p.2.size + 1) p.2.iterStart <;> rfl
    · by_cases hle : x ≤ s.min_value <;> simp only [hsc, hle, ↓reduceIte] <;> rfl

theorem new_eq_dual {K : Type} (P left right : Nat) (v : K) :
    LowerReversalSignal.new P left right v = (UpperReversalSignal.new (α := Kᵒᵈ) P left right v).bind fun s => .ok (ofUpper s) := by
  unfold LowerReversalSignal.new UpperReversalSignal.new OrderDual
  split
  · rfl
  · cases chkAdd P left right with
    | error e => rfl
    | ok lr =>
      dsimp only
      cases chkAdd P lr 1 with
      | error e => rfl
      | ok n => dsimp only; cases Window.new P n v <;> rfl

end LowerReversalSignal
end Yata
