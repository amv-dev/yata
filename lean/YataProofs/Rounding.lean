/-
  The standard model of rounding, `|fl x − x| ≤ u·|x|`, as facts about variables: how an absolute error passes a
  rounding (`fl_abs`) and a rounded addition (`fl_add`), how relative errors pass a rounding and a product, and how a
  disturbed linear recurrence `e' ≤ q·e + c` grows (`lin_step`, `q ≥ 1`) or stays bounded (`contract_step`, `q < 1`).
  The per-method drift bounds are chains of these.
-/
import Mathlib.Tactic.Ring
import Mathlib.Tactic.Linarith
import Mathlib.Tactic.Positivity
namespace Yata.FloatBound
variable {K : Type} [Field K] [LinearOrder K] [IsStrictOrderedRing K]

theorem abs_sub_le_two {x p M : K} (hx : |x| ≤ M) (hp : |p| ≤ M) : |x - p| ≤ 2 * M :=
  (abs_sub x p).trans ((add_le_add hx hp).trans_eq (two_mul M).symm)

theorem mul_rel {y₁ x₁ ε₁ y₂ x₂ ε₂ : K} (hε₁ : 0 ≤ ε₁) (h₁ : |y₁ - x₁| ≤ ε₁ * |x₁|) (h₂ : |y₂ - x₂| ≤ ε₂ * |x₂|) :
    |y₁ * y₂ - x₁ * x₂| ≤ ((1 + ε₁) * (1 + ε₂) - 1) * |x₁ * x₂| := by
  have e : y₁ * y₂ - x₁ * x₂ = (y₁ - x₁) * x₂ + x₁ * (y₂ - x₂) + (y₁ - x₁) * (y₂ - x₂) := by ring
  rw [e, abs_mul x₁ x₂]
  calc _ ≤ |(y₁ - x₁) * x₂| + |x₁ * (y₂ - x₂)| + |(y₁ - x₁) * (y₂ - x₂)| := abs_add_three _ _ _
    _ = |y₁ - x₁| * |x₂| + |x₁| * |y₂ - x₂| + |y₁ - x₁| * |y₂ - x₂| := by rw [abs_mul, abs_mul, abs_mul]
    _ ≤ ε₁ * |x₁| * |x₂| + |x₁| * (ε₂ * |x₂|) + ε₁ * |x₁| * (ε₂ * |x₂|) :=
      add_le_add (add_le_add (mul_le_mul_of_nonneg_right h₁ (abs_nonneg _)) (mul_le_mul_of_nonneg_left h₂ (abs_nonneg _)))
        (mul_le_mul h₁ h₂ (abs_nonneg _) (mul_nonneg hε₁ (abs_nonneg _)))
    _ = _ := by ring

/-! `γ = (1 + u)³ − 1` is the relative error of a quantity that has passed three roundings, such as a rounded product of
  a rounded factor and a rounded constant (`fl_mul_rel`). -/

theorem gamma_nonneg {u : K} (hu : 0 ≤ u) : 0 ≤ (1 + u) ^ 3 - 1 :=
  sub_nonneg.mpr (one_le_pow₀ (le_add_of_nonneg_right hu))

theorem gamma_le {u : K} (hu : 0 ≤ u) : (1 + u) ^ 3 - 1 ≤ 3 * u * (1 + u) ^ 2 := by
  -- expanded: `3u + 3u² + u³ ≤ 3u + 6u² + 3u³`
  linarith [pow_nonneg hu 2, pow_nonneg hu 3]

section
variable {fl : K → K} {u : K} (hu : 0 ≤ u) (hfl : ∀ x, |fl x - x| ≤ u * |x|)
include hu hfl

theorem fl_abs {s r d B : K} (h : |s - r| ≤ d) (hr : |r| ≤ B) : |fl s - r| ≤ (1 + u) * d + u * B := by
  have hs : |s| ≤ B + d := by
    calc |s| = |r + (s - r)| := by rw [add_sub_cancel]
      _ ≤ |r| + |s - r| := abs_add_le _ _
      _ ≤ B + d := add_le_add hr h
  calc |fl s - r| ≤ |fl s - s| + |s - r| := abs_sub_le _ _ _
    _ ≤ u * (B + d) + d := add_le_add ((hfl s).trans (mul_le_mul_of_nonneg_left hs hu)) h
    _ = (1 + u) * d + u * B := by ring

theorem fl_add {v e t r dt B : K} (ht : |t - r| ≤ dt) (hB : |e + r| ≤ B) :
    |fl (v + t) - (e + r)| ≤ (1 + u) * (|v - e| + dt) + u * B := by
  refine fl_abs hu hfl ?_ hB
  rw [add_sub_add_comm]
  exact (abs_add_le _ _).trans (add_le_add le_rfl ht)

theorem fl_rel {y x ε : K} (h : |y - x| ≤ ε * |x|) : |fl y - x| ≤ ((1 + ε) * (1 + u) - 1) * |x| :=
  (fl_abs hu hfl h le_rfl).trans_eq (by ring)

theorem fl_mul_rel {a α : K} (ha : |a - α| ≤ u * |α|) (w : K) :
    |fl (fl w * a) - w * α| ≤ ((1 + u) ^ 3 - 1) * |w * α| :=
  (fl_rel hu hfl (mul_rel hu (hfl w) ha)).trans_eq (by ring)

end

theorem lin_step {q c e : K} (hq : 1 ≤ q) (hc : 0 ≤ c) (k : Nat) (he : e ≤ (k : K) * q ^ k * c) :
    q * e + c ≤ ((k + 1 : Nat) : K) * q ^ (k + 1) * c := by
  have h1 : c ≤ q ^ (k + 1) * c := le_mul_of_one_le_left hc (one_le_pow₀ hq)
  calc q * e + c ≤ q * ((k : K) * q ^ k * c) + q ^ (k + 1) * c :=
        add_le_add (mul_le_mul_of_nonneg_left he (zero_le_one.trans hq)) h1
    _ = ((k + 1 : Nat) : K) * q ^ (k + 1) * c := by push_cast; ring

/-- `hB` is `ρ·B + c ≤ B`, a step maps `B` below itself; for `ρ < 1` the least such `B` is the fixed point `c / (1 − ρ)` -/
theorem contract_step {ρ c e B : K} (hρ : 0 ≤ ρ) (he : e ≤ B) (hB : c ≤ (1 - ρ) * B) : ρ * e + c ≤ B :=
  (add_le_add (mul_le_mul_of_nonneg_left he hρ) le_rfl).trans (le_sub_iff_add_le'.1 (hB.trans_eq (one_sub_mul _ _)))

/-- two recursions that start at the same value: what the run bounds ask at `k = 0` -/
theorem start_bound (v q c : K) : |v - v| ≤ ((0 : Nat) : K) * q ^ 0 * c := by
  rw [sub_self, abs_zero, Nat.cast_zero, zero_mul, zero_mul]

theorem lin_mono {q c : K} (hq : 1 ≤ q) (hc : 0 ≤ c) {k n : Nat} (h : k ≤ n) :
    (k : K) * q ^ k * c ≤ (n : K) * q ^ n * c := by
  gcongr

end Yata.FloatBound
