/-
  HighestIndex / LowestIndex: the returned index is the age of the NEWEST extreme element of the
  window (ties: newest wins), for every reachable state.
-/
import YataProofs.Selection
-- Nothing of it is used by name. With Mathlib's lattice instances in scope `<` and `≤` on a `LinearOrder K` elaborate through
-- `instDistribLatticeOfLinearOrder`, without them through `LinearOrder.toPartialOrder`. Every module that uses `NewestMaxAt` /
-- `NewestMinAt` has them in scope; were they missing here, the two bodies would spell the order on `K` differently from the
-- facts stated there, and `rw` / `simp` would meet two forms of `<` that agree only after unfolding instances.
import Mathlib.Order.Lattice
namespace Yata
open FloatLike
variable {β K : Type} [LinearOrder K] [FloatLike β K] [DecidableLT β] [DecidableLE β] {P : Nat}

/-- `r` is the window newest first: a position in it is an age, and `j < i` is newer -/
def NewestMaxAt (i : Nat) (v : β) (r : List β) : Prop :=
  r[i]? = some v ∧ (∀ j y, j < i → r[j]? = some y → num y < num v) ∧ (∀ y ∈ r, num y ≤ num v)

def NewestMinAt (i : Nat) (v : β) (r : List β) : Prop :=
  r[i]? = some v ∧ (∀ j y, j < i → r[j]? = some y → num v < num y) ∧ (∀ y ∈ r, num v ≤ num y)

theorem NewestMaxAt.unique {i i' : Nat} {v v' : β} {r : List β} (h : NewestMaxAt i v r) (h' : NewestMaxAt i' v' r) :
    i = i' := by
  obtain ⟨hget, hnewer, hall⟩ := h
  obtain ⟨hget', hnewer', hall'⟩ := h'
  rcases Nat.lt_trichotomy i i' with hlt | heq | hgt
  · exact absurd (hnewer' i v hlt hget) (not_lt.mpr (hall v' (List.mem_of_getElem? hget')))
  · exact heq
  · exact absurd (hnewer i' v' hgt hget') (not_lt.mpr (hall' v (List.mem_of_getElem? hget)))

theorem NewestMinAt.unique {i i' : Nat} {v v' : β} {r : List β} (h : NewestMinAt i v r) (h' : NewestMinAt i' v' r) :
    i = i' :=
  NewestMaxAt.unique (β := βᵒᵈ) h h'

/-! `snoc_*`: a scan, newest first, reaches an older element; `push_*`: the window takes a newer value and drops its oldest -/
section
omit [DecidableLT β] [DecidableLE β]

theorem NewestMaxAt.snoc_gt {i : Nat} {v y : β} {r : List β} (h : NewestMaxAt i v r) (hlt : num v < num y) :
    NewestMaxAt r.length y (r ++ [y]) := by
  obtain ⟨_, _, hall⟩ := h
  refine ⟨List.getElem?_concat_length, fun j z hj hz => ?_, fun z hz => ?_⟩
  · rw [List.getElem?_append_left hj] at hz
    exact lt_of_le_of_lt (hall z (List.mem_of_getElem? hz)) hlt
  · rcases List.mem_append.mp hz with hz | hz
    · exact le_of_lt (lt_of_le_of_lt (hall z hz) hlt)
    · rw [List.mem_singleton.mp hz]

theorem NewestMaxAt.snoc_le {i : Nat} {v y : β} {r : List β} (h : NewestMaxAt i v r) (hle : num y ≤ num v) :
    NewestMaxAt i v (r ++ [y]) := by
  obtain ⟨hget, hnewer, hall⟩ := h
  have hi : i < r.length := (List.getElem?_eq_some_iff.mp hget).1
  refine ⟨by rw [List.getElem?_append_left hi]; exact hget, fun j z hj hz => ?_, fun z hz => ?_⟩
  · rw [List.getElem?_append_left (Nat.lt_trans hj hi)] at hz
    exact hnewer j z hj hz
  · rcases List.mem_append.mp hz with hz | hz
    · exact hall z hz
    · rw [List.mem_singleton.mp hz]; exact hle

theorem NewestMaxAt.push_keep {i : Nat} {v a x : β} {r : List β} (h : NewestMaxAt i v (r ++ [a])) (hi : i < r.length)
    (hlt : num x < num v) : NewestMaxAt (i + 1) v (x :: r) := by
  obtain ⟨hget, hnewer, hall⟩ := h
  refine ⟨?_, ?_, ?_⟩
  · rw [List.getElem?_cons_succ, ← hget, List.getElem?_append_left hi]
  · intro j y hj hy
    cases j with
    | zero => cases hy; exact hlt
    | succ j' =>
      rw [List.getElem?_cons_succ] at hy
      exact hnewer j' y (by omega) (by rw [List.getElem?_append_left (by omega)]; exact hy)
  · intro y hy
    rcases List.mem_cons.mp hy with rfl | hy
    · exact le_of_lt hlt
    · exact hall y (List.mem_append_left _ hy)

theorem NewestMaxAt.push_ge {i : Nat} {v a x : β} {r : List β} (h : NewestMaxAt i v (r ++ [a]))
    (hge : num v ≤ num x) : NewestMaxAt 0 x (x :: r) := by
  obtain ⟨_, _, hall⟩ := h
  refine ⟨rfl, fun j y hj _ => by omega, fun y hy => ?_⟩
  rcases List.mem_cons.mp hy with rfl | hy
  · exact le_refl _
  · exact le_trans (hall y (List.mem_append_left _ hy)) hge

theorem newestMaxAt_replicate (v : β) {n : Nat} (hn : 0 < n) : NewestMaxAt 0 v (List.replicate n v) :=
  ⟨by cases n with | zero => omega | succ m => rfl, fun j y hj _ => by omega,
    fun y hy => by rw [List.eq_of_mem_replicate hy]⟩

end

omit [DecidableLE β] in
/-- the rescan of `HighestIndex::next`: folding over the window (newest first) whose head is the
    value just pushed -/
theorem argFold_max_spec (x : β) (t : List β) :
    ∃ i v, argFold (fun b a => decide (a < b)) x (x :: t) = (i, v) ∧ NewestMaxAt i v (x :: t) := by
  have h0 : NewestMaxAt 0 x [x] := newestMaxAt_replicate x Nat.one_pos
  have hirr : ¬ (x < x) := fun h => lt_irrefl _ ((lt_iff _ _).mp h)
  -- the fold is seeded with `x` and meets `x` itself first, which does not beat it
  unfold argFold
  rw [List.zipIdx_cons, List.foldl_cons, if_neg (by rwa [decide_eq_true_eq])]
  exact foldArg_go (fun b a => decide (a < b)) (fun i v pre => NewestMaxAt i v pre) 0
    (fun _ hI hb => hI.snoc_gt ((lt_iff _ _).mp (of_decide_eq_true hb)))
    (fun _ hI hb => hI.snoc_le (not_lt.mp fun h' => of_decide_eq_false hb ((lt_iff _ _).mpr h')))
    t [x] 1 0 x h0 rfl

omit [DecidableLE β] in
theorem argFold_min_spec (x : β) (t : List β) :
    ∃ i v, argFold (fun b a => decide (b < a)) x (x :: t) = (i, v) ∧ NewestMinAt i v (x :: t) :=
  argFold_max_spec (β := βᵒᵈ) x t

namespace HighestIndex

structure Inv (P : Nat) (s : HighestIndex β) : Prop where
  winv : Window.Inv P s.window
  pos : 0 < s.window.size
  at_ : NewestMaxAt s.index s.value (Window.toList s.window).reverse

omit [DecidableLT β] [DecidableLE β] in
/-- `self.index += 1` cannot overflow: the counter is an age inside the window, whose length is below `PeriodType::MAX` -/
theorem counter_ok {s : HighestIndex β} (h : Inv P s) :
    s.index < s.window.size ∧ s.window.size ≤ P - 1 ∧ chkAdd P s.index 1 = .ok (s.index + 1) := by
  have h1 := (List.getElem?_eq_some_iff.mp h.at_.1).1
  rw [List.length_reverse, h.winv.toList_length] at h1
  have h2 := h.winv.size_le
  exact ⟨h1, h2, if_pos (by omega)⟩

theorem next_spec {s : HighestIndex β} (x : β) (h : Inv P s) :
    ∃ o s', HighestIndex.next P s x = .ok (o, s') ∧ Inv P s' ∧ o = s'.index ∧
      Window.toList s'.window = (Window.toList s.window).tail ++ [x] := by
  obtain ⟨a, t, w', hat, hp, hinv', hsz, htl⟩ := Window.push_cons x h.winv h.pos
  obtain ⟨hidx, _, hchk⟩ := counter_ok h
  have hlen : t.reverse.length + 1 = s.window.size := by
    rw [← h.winv.toList_length, hat, List.length_reverse, List.length_cons]
  have hcur := h.at_
  rw [hat, List.reverse_cons] at hcur
  have hit := iterAll_spec (P := P) hinv'
  rw [htl, List.reverse_append, List.reverse_singleton, List.singleton_append] at hit
  rw [hat]
  suffices ∃ i v, HighestIndex.next P s x = .ok (i, ⟨i, v, w'⟩) ∧ NewestMaxAt i v (x :: t.reverse) by
    obtain ⟨i, v, hn, hm⟩ := this
    exact ⟨i, _, hn, ⟨hinv', hsz ▸ h.pos, by
      show NewestMaxAt i v (Window.toList w').reverse
      rw [htl, List.reverse_append]; exact hm⟩, rfl, htl⟩
  unfold HighestIndex.next
  simp only [hp, hchk]
  by_cases hle : s.value ≤ x
  · exact ⟨0, x, by simp [hle], hcur.push_ge ((le_iff _ _).mp hle)⟩
  · have hn : num x < num s.value := not_le.mp fun h' => hle ((le_iff _ _).mpr h')
    by_cases hfull : s.index + 1 = w'.len
    · -- the remembered maximum has just left the window: rescan, newest first
      obtain ⟨i, v, he, hm⟩ := argFold_max_spec x t.reverse
      exact ⟨i, v, by simp only [hle, hfull, hit, he, if_true, if_false], hm⟩
    · have hlt : s.index < t.reverse.length := by have : w'.len = s.window.size := hsz; omega
      exact ⟨s.index + 1, s.value, by simp only [hle, hfull, if_false], hcur.push_keep hlt hn⟩

omit [DecidableLT β] [DecidableLE β] in
theorem new_spec {n : Nat} (v : β) (hn0 : 0 < n) (hn : n ≤ P - 1) :
    ∃ s, HighestIndex.new P n v = .ok s ∧ Inv P s ∧ Window.toList s.window = List.replicate n v := by
  obtain ⟨w, hw, hinv, htl, hsz⟩ := Window.new_ok (P := P) v hn
  refine ⟨⟨0, v, w⟩, by rw [HighestIndex.new, if_neg (not_zero_or_max hn0 hn), hw]; rfl, ⟨hinv, hsz ▸ hn0, ?_⟩, htl⟩
  show NewestMaxAt 0 v (Window.toList w).reverse
  rw [htl, List.reverse_replicate]
  exact newestMaxAt_replicate v hn0

end HighestIndex

namespace LowestIndex

structure Inv (P : Nat) (s : LowestIndex β) : Prop where
  winv : Window.Inv P s.window
  pos : 0 < s.window.size
  at_ : NewestMinAt s.index s.value (Window.toList s.window).reverse

def toHighest {β : Type} (s : LowestIndex β) : HighestIndex βᵒᵈ := ⟨s.index, s.value, s.window⟩
def ofHighest {β : Type} (s : HighestIndex βᵒᵈ) : LowestIndex β := ⟨s.index, s.value, s.window⟩

theorem next_eq_dual {β : Type} [LT β] [DecidableLT β] [LE β] [DecidableLE β] (P : Nat) (s : LowestIndex β) (x : β) :
    LowestIndex.next P s x = (HighestIndex.next P s.toHighest x).map fun p => (p.1, ofHighest p.2) := by
  unfold LowestIndex.next HighestIndex.next toHighest OrderDual
  cases s.window.push x with
  | error e => rfl
  | ok p =>
    cases chkAdd P s.index 1 with
    | error e => rfl
    | ok i =>
      have hd : (@LE.le β (OrderDual.instLE β) s.value x) = (x ≤ s.value) := rfl
      simp only [hd]
      split
      · rfl
      · split
        · cases p.2.iterAll <;> rfl
        · rfl

omit [DecidableLT β] [DecidableLE β] in
theorem inv_iff_dual {s : LowestIndex β} : Inv P s ↔ HighestIndex.Inv P s.toHighest :=
  ⟨fun h => ⟨h.winv, h.pos, h.at_⟩, fun h => ⟨h.winv, h.pos, h.at_⟩⟩

theorem next_spec {s : LowestIndex β} (x : β) (h : Inv P s) :
    ∃ o s', LowestIndex.next P s x = .ok (o, s') ∧ Inv P s' ∧ o = s'.index ∧
      Window.toList s'.window = (Window.toList s.window).tail ++ [x] := by
  obtain ⟨o, s', hn, hi, ho, ht⟩ := HighestIndex.next_spec (β := βᵒᵈ) x (inv_iff_dual.mp h)
  exact ⟨o, ofHighest s', by rw [next_eq_dual, hn]; rfl, inv_iff_dual.mpr hi, ho, ht⟩

omit [DecidableLT β] [DecidableLE β] in
theorem new_spec {n : Nat} (v : β) (hn0 : 0 < n) (hn : n ≤ P - 1) :
    ∃ s, LowestIndex.new P n v = .ok s ∧ Inv P s ∧ Window.toList s.window = List.replicate n v := by
  obtain ⟨w, hw, hinv, htl, hsz⟩ := Window.new_ok (P := P) v hn
  refine ⟨⟨0, v, w⟩, by rw [LowestIndex.new, if_neg (not_zero_or_max hn0 hn), hw]; rfl, ⟨hinv, hsz ▸ hn0, ?_⟩, htl⟩
  show NewestMinAt 0 v (Window.toList w).reverse
  rw [htl, List.reverse_replicate]
  exact newestMaxAt_replicate (β := βᵒᵈ) v hn0

end LowestIndex
end Yata
