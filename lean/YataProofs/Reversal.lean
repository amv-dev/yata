/-
  UpperReversalSignal: the remembered pair (max_index, max_value) is the NEWEST maximum of the positions currently
  covered by the window, and the signal fires exactly when that position is `right` steps back.
-/
import YataProofs.Numeric.Common
import YataProofs.Selection
import YataModel.Methods.Signals
namespace Yata
variable {K : Type} [LinearOrder K]

/-- the oldest-first list `l` occupies the positions `off, off+1, …`; `(i, v)` is its newest maximum -/
def LastMaxAt (i : Nat) (v : K) (off : Nat) (l : List K) : Prop :=
  off ≤ i ∧ l[i - off]? = some v ∧ (∀ y ∈ l, y ≤ v) ∧ (∀ j y, i - off < j → l[j]? = some y → y < v)

theorem LastMaxAt.eq {i i' : Nat} {v v' : K} {off : Nat} {l : List K}
    (h : LastMaxAt i v off l) (h' : LastMaxAt i' v' off l) : i = i' ∧ v = v' := by
  obtain ⟨hoff, hget, hle, hnewer⟩ := h
  obtain ⟨hoff', hget', hle', hnewer'⟩ := h'
  have hv : v = v' := le_antisymm (hle' v (List.mem_of_getElem? hget)) (hle v' (List.mem_of_getElem? hget'))
  subst hv
  refine ⟨?_, rfl⟩
  rcases Nat.lt_trichotomy (i - off) (i' - off) with hlt | heq | hgt
  · exact absurd (hnewer _ v hlt hget') (lt_irrefl v)
  · omega
  · exact absurd (hnewer' _ v hgt hget) (lt_irrefl v)

section
variable {K : Type} [Field K] [LinearOrder K] [IsStrictOrderedRing K]
/-- `LastMaxAt.eq` as C14 states it (`C14_newest_max_unique`), over an ordered field; only the order is used -/
theorem LastMaxAt.unique {i i' : Nat} {v v' : K} {off : Nat} {l : List K}
    (h : LastMaxAt i v off l) (h' : LastMaxAt i' v' off l) : i = i' ∧ v = v' :=
  h.eq h'
end

theorem lastMaxAt_singleton (i : Nat) (v : K) : LastMaxAt i v i [v] :=
  ⟨le_refl _, by simp, fun y hy => by rw [List.mem_singleton.mp hy], fun j y hj hy => by
    rw [List.getElem?_eq_none (by simp; omega)] at hy; cases hy⟩

theorem LastMaxAt.snoc_ge {i off : Nat} {v x : K} {l : List K} (h : LastMaxAt i v off l) (hge : v ≤ x) :
    LastMaxAt (l.length + off) x off (l ++ [x]) := by
  obtain ⟨_, _, hle, _⟩ := h
  refine ⟨Nat.le_add_left _ _, by rw [Nat.add_sub_cancel, List.getElem?_concat_length], fun y hy => ?_, fun j y hj hy => ?_⟩
  · rcases List.mem_append.mp hy with hy | hy
    · exact le_trans (hle y hy) hge
    · rw [List.mem_singleton.mp hy]
  · rw [Nat.add_sub_cancel] at hj
    rw [List.getElem?_eq_none (by rw [List.length_append, List.length_singleton]; omega)] at hy
    cases hy

theorem LastMaxAt.snoc_lt {i off : Nat} {v x : K} {l : List K} (h : LastMaxAt i v off l) (hlt : x < v) :
    LastMaxAt i v off (l ++ [x]) := by
  obtain ⟨hoff, hget, hle, hnewer⟩ := h
  have hi := (List.getElem?_eq_some_iff.mp hget).1
  refine ⟨hoff, by rw [List.getElem?_append_left hi]; exact hget, fun y hy => ?_, fun j y hj hy => ?_⟩
  · rcases List.mem_append.mp hy with hy | hy
    · exact hle y hy
    · rw [List.mem_singleton.mp hy]; exact le_of_lt hlt
  · rcases Nat.lt_or_ge j l.length with hjl | hjl
    · rw [List.getElem?_append_left hjl] at hy
      exact hnewer j y hj hy
    · rw [List.getElem?_append_right hjl] at hy
      rw [List.mem_singleton.mp (List.mem_of_getElem? hy)]
      exact hlt

theorem LastMaxAt.drop {i off d : Nat} {v : K} {l : List K} (h : LastMaxAt i v off l) (hd : off + d ≤ i) :
    LastMaxAt i v (off + d) (l.drop d) := by
  obtain ⟨_, hget, hle, hnewer⟩ := h
  refine ⟨hd, ?_, fun y hy => hle y (List.mem_of_mem_drop hy), fun j y hj hy => ?_⟩
  · rw [List.getElem?_drop, ← hget]; congr 1; omega
  · rw [List.getElem?_drop] at hy; exact hnewer (d + j) y (by omega) hy

theorem LastMaxAt.shift {i f f' : Nat} {v : K} {ys : List K} (h : LastMaxAt i v f (ys.drop f)) (hff : f ≤ f') (hfi : f' ≤ i) :
    LastMaxAt i v f' (ys.drop f') := by
  have := h.drop (d := f' - f) (by rwa [Nat.add_sub_cancel' hff])
  rwa [List.drop_drop, Nat.add_sub_cancel' hff] at this

/-- `h`: `next` seeds the fold with the oldest element of the window, which `rescan` then skips -/
theorem rescan_spec (first : Nat) {l : List K} {o : K} (h : l.head? = some o) :
    ∃ i v, rescan (fun x m => decide (m ≤ x)) first l o = (i, v) ∧ LastMaxAt i v first l := by
  obtain ⟨rest, rfl⟩ : ∃ rest, l = o :: rest := List.head?_eq_some_iff.mp h
  exact foldArg_go (fun x m => decide (m ≤ x)) (fun i v pre => LastMaxAt i v first pre) first
    (fun _ hI hb => hI.snoc_ge (of_decide_eq_true hb)) (fun _ hI hb => hI.snoc_lt (not_le.mp (of_decide_eq_false hb)))
    rest [o] (first + 1) first o (lastMaxAt_singleton first o) (Nat.add_comm first 1)

/-- the sequence the detector looks at: the first input competes with the construction value (constant prehistory) -/
def virt (v : K) : List K → List K
  | [] => []
  | x0 :: r => (if v ≤ x0 then x0 else v) :: r

theorem virt_snoc (v : K) (xs : List K) (x : K) (h : xs ≠ []) : virt v (xs ++ [x]) = virt v xs ++ [x] := by
  cases xs with
  | nil => exact absurd rfl h
  | cons a t => simp [virt]

theorem virt_length (v : K) (xs : List K) : (virt v xs).length = xs.length := by
  cases xs <;> simp [virt]

theorem virt_drop (v : K) (xs : List K) (k : Nat) (hk : 0 < k) : (virt v xs).drop k = xs.drop k := by
  cases xs with
  | nil => simp [virt]
  | cons a t =>
    obtain ⟨m, rfl⟩ : ∃ m, k = m + 1 := ⟨k - 1, by omega⟩
    simp [virt]

namespace UpperReversalSignal

/-- first position still covered by the window after `n` inputs -/
def firstPos (len n : Nat) : Nat := n - len

structure Inv (P left right : Nat) (v : K) (xs : List K) (s : UpperReversalSignal K) : Prop where
  left_eq : s.left = left
  right_eq : s.right = right
  idx : s.index = xs.length
  tracks : Tracks P (left + right + 1) s.window (List.replicate (left + right + 1) v ++ xs)
  start : xs = [] → s.max_index = 0 ∧ s.max_value = v
  cur : xs ≠ [] → LastMaxAt s.max_index s.max_value (firstPos (left + right + 1) xs.length)
          ((virt v xs).drop (firstPos (left + right + 1) xs.length))

theorem firstPos_succ {len n : Nat} (hlen : 0 < len) :
    firstPos len n ≤ firstPos len (n + 1) ∧ firstPos len (n + 1) ≤ n ∧ (0 < firstPos len (n + 1) → len ≤ n + 1) := by
  unfold firstPos; omega

theorem next_spec {P left right : Nat} {v : K} {xs : List K} {s : UpperReversalSignal K} (x : K)
    (h : Inv P left right v xs s) :
    ∃ a s', s.next x = .ok (a, s') ∧ Inv P left right v (xs ++ [x]) s' ∧
      a = (if xs.length ≥ right ∧ s'.max_index = xs.length - right then Action.buyAll else Action.none) := by
  obtain ⟨hl, hr, hidx, htr, hstart, hcur⟩ := h
  have hlen0 : 0 < left + right + 1 := Nat.succ_pos _
  obtain ⟨hff, hfl, hfull⟩ := firstPos_succ (n := xs.length) hlen0
  obtain ⟨old, w', hp, ht', -⟩ := htr.slide hlen0 x
  have hl1 : (xs ++ [x]).length = xs.length + 1 := List.length_append
  have hfirst : (s.index + 1) - w'.len = firstPos (left + right + 1) (xs.length + 1) := by
    rw [show w'.len = _ from ht'.size, hidx]; rfl
  generalize hf' : firstPos (left + right + 1) (xs.length + 1) = f' at hff hfl hfull hfirst
  suffices ∃ mv mi, s.next x = .ok (if s.index ≥ s.right ∧ mi = s.index - s.right then Action.buyAll else Action.none,
      { s with max_value := mv, max_index := mi, index := s.index + 1, window := w' }) ∧
      LastMaxAt mi mv f' ((virt v (xs ++ [x])).drop f') by
    obtain ⟨mv, mi, hn, hm⟩ := this
    refine ⟨_, _, hn, ?_, by rw [hidx, hr]⟩
    exact {
      left_eq := hl
      right_eq := hr
      idx := by rw [hl1, ← hidx]
      tracks := by rw [← List.append_assoc]; exact ht'
      start := fun he => absurd he (List.append_ne_nil_of_right_ne_nil _ (List.cons_ne_nil _ _))
      cur := fun _ => by rw [hl1, hf']; exact hm }
  unfold UpperReversalSignal.next
  simp only [hp, hfirst]
  by_cases hscan : s.max_index < f'
  · -- the remembered maximum has left the window, which is full of inputs by now: rescan it
    have hwpos : 0 < w'.size := ht'.size ▸ hlen0
    obtain ⟨o, ho, hhead⟩ := Window.oldest_spec ht'.inv hwpos
    have hf0 : 0 < f' := Nat.zero_lt_of_lt hscan
    have hwin : Window.toList w' = (virt v (xs ++ [x])).drop f' := by
      rw [ht'.contents, List.append_assoc, lastN_append_of_le _ (xs ++ [x]) (hl1 ▸ hfull hf0), lastN, virt_drop v _ f' hf0, hl1, ← hf']
      rfl
    obtain ⟨i, m, he, hm⟩ := rescan_spec f' hhead
    exact ⟨m, i, by simp only [hscan, ↓reduceIte, ho, Window.iterRevCollect_start ht'.inv, he], hwin ▸ hm⟩
  · simp only [hscan, ↓reduceIte]
    by_cases hxs : xs = []
    · -- the first input competes with the construction value only
      obtain ⟨hmi, hmv⟩ := hstart hxs
      subst hxs
      obtain rfl : f' = 0 := Nat.le_zero.mp hfl
      rw [hmi, hmv, hidx, List.length_nil]
      exact ⟨if v ≤ x then x else v, 0, by by_cases hvx : v ≤ x <;> simp only [hvx, ↓reduceIte], lastMaxAt_singleton 0 _⟩
    · -- the remembered maximum is still covered
      have hc := (hcur hxs).shift hff (not_lt.mp hscan)
      rw [← virt_length v xs] at hfl
      rw [virt_snoc v xs x hxs, List.drop_append_of_le_length hfl]
      by_cases hge : s.max_value ≤ x
      · refine ⟨x, s.index, by rw [if_pos hge], ?_⟩
        have := hc.snoc_ge hge
        rwa [List.length_drop, Nat.sub_add_cancel hfl, virt_length, ← hidx] at this
      · exact ⟨s.max_value, s.max_index, by rw [if_neg hge], hc.snoc_lt (not_le.mp hge)⟩

theorem new_spec {P left right : Nat} (v : K) (hl : 0 < left) (hr : 0 < right) (hsum : left + right + 1 ≤ P - 1) :
    ∃ s, UpperReversalSignal.new P left right v = .ok s ∧ Inv P left right v [] s := by
  have hg : ¬ (left = 0 ∨ right = 0 ∨ satAdd P left right ≥ P - 1) := by rw [satAdd_eq_min]; omega
  have hc1 : chkAdd P left right = .ok (left + right) := chkAdd_ok (by omega)
  have hc2 : chkAdd P (left + right) 1 = .ok (left + right + 1) := chkAdd_ok (by omega)
  obtain ⟨w, hw, ht⟩ := Tracks.new (P := P) v hsum
  exact ⟨{ left := left, right := right, max_value := v, max_index := 0, index := 0, window := w },
    by rw [UpperReversalSignal.new, if_neg hg, hc1]; dsimp only; rw [hc2]; dsimp only; rw [hw]; rfl,
    { left_eq := rfl, right_eq := rfl, idx := rfl, tracks := ht, start := fun _ => ⟨rfl, rfl⟩, cur := fun h => absurd rfl h }⟩

theorem run_spec {P left right : Nat} (v : K) (hl : 0 < left) (hr : 0 < right) (hsum : left + right + 1 ≤ P - 1) (xs : List K) :
    ∃ s0 outs s', UpperReversalSignal.new P left right v = .ok s0 ∧ runM UpperReversalSignal.next s0 xs = .ok (outs, s') ∧
      outs.length = xs.length ∧
      ∀ t (ht : t < outs.length), ∃ mi mv,
        LastMaxAt mi mv (firstPos (left + right + 1) (t + 1)) ((virt v (xs.take (t + 1))).drop (firstPos (left + right + 1) (t + 1))) ∧
        outs[t] = (if t ≥ right ∧ mi = t - right then Action.buyAll else Action.none) := by
  obtain ⟨s0, os, s', hnew, hrun, hlen, houts⟩ :=
    method_run _ UpperReversalSignal.next (Inv P left right v)
      (fun h o => ∃ mi mv,
        LastMaxAt mi mv (firstPos (left + right + 1) h.length) ((virt v h).drop (firstPos (left + right + 1) h.length)) ∧
        o = (if h.length - 1 ≥ right ∧ mi = h.length - 1 - right then Action.buyAll else Action.none))
      (new_spec v hl hr hsum)
      (fun h s x hinv => by
        obtain ⟨a, s1, hn, hinv1, ha⟩ := next_spec x hinv
        exact ⟨a, s1, hn, hinv1, s1.max_index, s1.max_value,
          hinv1.cur (List.append_ne_nil_of_right_ne_nil _ (List.cons_ne_nil _ _)), by rw [ha, List.length_append]; rfl⟩)
      xs
  refine ⟨s0, os, s', hnew, hrun, hlen, fun t ht => ?_⟩
  have := houts t ht
  rwa [List.length_take_of_le (Nat.succ_le_of_lt (hlen ▸ ht))] at this

end UpperReversalSignal
end Yata
