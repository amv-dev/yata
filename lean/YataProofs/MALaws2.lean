/-
  C15 for the kinds that are not a weighted mean of one window: the composites TRIMA (SMA of SMA) and HMA (WMA of
  2·WMA − WMA), to which the laws of their parts pass (`Average.over`, `Affine.over`, `Additive.over`), LinReg and Vidya.
  HMA and LinReg overshoot by design: they are linear, not range-preserving.
-/
import YataProofs.MALaws
import YataProofs.Numeric.LinReg
import YataProofs.Numeric.Vidya
import Mathlib.Data.List.Induction
namespace Yata

section
variable {K : Type} [Field K] {f g : K → List K → K}

/-- the inner series of HMA; affine because the coefficients sum to 1 -/
theorem Affine.two_sub (hf : Affine f) (hg : Affine g) : Affine fun v p => ((2 : Nat) : K) * f v p - g v p :=
  fun a b v p => by simp only [hf a b v p, hg a b v p]; push_cast; ring

theorem Additive.two_sub (hf : Additive f) (hg : Additive g) : Additive fun v p => ((2 : Nat) : K) * f v p - g v p :=
  fun v w p q h => by simp only [hf v w p q h, hg v w p q h]; ring

end

variable {K : Type} [Field K] [LinearOrder K] [IsStrictOrderedRing K]

theorem trima_average (n : Nat) (hn : 0 < n) : Average (Spec.trima (α := K) n) := (sma_average n hn).over (sma_average n hn)

theorem hma_affine (n : Nat) (h2 : 0 < n / 2) (hs : 0 < Nat.sqrt n) : Affine (Spec.hma (α := K) n) :=
  (wma_average _ hs).affine.over ((wma_average _ h2).affine.two_sub (wma_average n (by omega)).affine)

theorem hma_add (n : Nat) (h2 : 0 < n / 2) (hs : 0 < Nat.sqrt n) : Additive (Spec.hma (α := K) n) :=
  (wma_average _ hs).additive.over ((wma_average _ h2).additive.two_sub (wma_average n (by omega)).additive)

theorem linreg_affine (n : Nat) (hn : 0 < n) : Affine (Spec.linreg (α := K) n) := by
  intro a b v xs
  have hn0 : (n : K) ≠ 0 := Nat.cast_ne_zero.mpr hn.ne'
  have hlen : (lastN n (history n v xs)).length = n := win_length n v xs
  have e1 : ((lastN n (history n v xs)).map fun x => a * x + b).sum = a * (lastN n (history n v xs)).sum + (n : K) * b := by
    rw [← wsum_ones _ n (by simpa using hlen), wsum_affine a b _ _ (by simp [hlen]), wsum_ones _ n hlen,
      sum_replicate_field]; ring
  unfold Spec.linreg Spec.win
  dsimp only
  rw [win_map (fun x => a * x + b) n v xs,
    sum_zipIdx fun i => ((i : Nat) : K) - ((n - 1 : Nat) : K), sum_zipIdx fun i => ((i : Nat) : K) - ((n - 1 : Nat) : K),
    e1, wsumIdx, wsumIdx, List.length_map, wsum_affine a b _ _ (by simp), hlen, abscissa_sum]
  generalize (lastN n (history n v xs)).sum = Y
  generalize wsum (lastN n (history n v xs)) _ = XY
  generalize (((List.range n).sum : Nat) : K) = S
  -- the slope scales by `a` (the shift `b` cancels in its numerator), then only `n` is left to divide by
  rw [show (n : K) * (a * XY + b * -S) - -S * (a * Y + n * b) = a * ((n : K) * XY - -S * Y) by ring, mul_div_assoc]
  generalize ((n : K) * XY - -S * Y) / _ = k
  rw [show a * Y + n * b - a * k * -S = a * (Y - k * -S) + n * b by ring, add_div, mul_div_assoc,
    mul_div_cancel_left₀ b hn0]

/-! Vidya is an exponential average whose smoothing is scaled by |CMO| ∈ [0, 1]: every output is a convex combination of the
  input and the previous output, and |CMO| is invariant under x ↦ a·x + b for a ≠ 0.  Both laws are thus facts about one
  step (Numeric/Vidya), carried along the stream by `Vidya.vidya_snoc`. -/

theorem vidya_hull [i : DecidableEq K] (n : Nat) (hn : 0 < n) : Hull (Spec.vidya (α := K) n) := by
  intro v xs lo hi h
  obtain ⟨f0, f1⟩ := ema_alpha_range (K := K) n hn
  -- `Vidya.vidya_snoc` is stated with the decidable equality of the order
  obtain rfl : i = LinearOrder.toDecidableEq := Subsingleton.elim _ _
  induction xs using List.reverseRecOn with
  | nil => exact h v List.mem_cons_self
  | append_singleton xs x ih =>
    rw [Vidya.vidya_snoc]
    exact Vidya.stepOut_hull f0 f1 _ (h x (by simp))
      (ih fun y hy => h y (List.cons_subset_cons v (List.subset_append_left xs [x]) hy))

theorem vidya_affine [i : DecidableEq K] (n : Nat) (a b v : K) (ha : a ≠ 0) (xs : List K) :
    Spec.vidya n (a * v + b) (xs.map fun x => a * x + b) = a * Spec.vidya n v xs + b := by
  obtain rfl : i = LinearOrder.toDecidableEq := Subsingleton.elim _ _
  induction xs using List.reverseRecOn with
  | nil => rfl
  | append_singleton xs x ih =>
    have hw := win_changes_affine n a b v (xs ++ [x])
    rw [List.map_append, List.map_singleton] at hw ⊢
    rw [Vidya.vidya_snoc, Vidya.vidya_snoc, ih, hw, Vidya.stepOut_affine ha]

end Yata
