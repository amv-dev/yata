/-
  Indicators that compose realised averages with one another, with delay windows and with running window sums: MACD,
  Awesome oscillator, detrended price oscillator, ease of movement, Elder's force index, Envelopes, Klinger volume
  oscillator, TrueStrengthIndex / SMIErgodic.  Each has the invariant of its value step (a `Realises` per average, a
  `Tracks` per window); where the step is not proved here it is proved under its statement in YataProps/C05.
-/
import YataProofs.Indicators.RealisesEvery
import YataProofs.Numeric.TSI
namespace Yata.Ind
open Yata

namespace MACD

/-- histories: the source values so far and the MACD-line values so far -/
structure Inv (f1 f2 f3 : List ℚ → ℚ) (srcs macds : List ℚ) (s : MACD) : Prop where
  r1 : Realises f1 s.ma1 srcs
  r2 : Realises f2 s.ma2 srcs
  r3 : Realises f3 s.ma3 macds

/-- C05 for MACD: the line is the difference of the two averages of the source, the signal line the third average of the
    line's values -/
theorem vals_spec {f1 f2 f3 : List ℚ → ℚ} {srcs macds : List ℚ} {s : MACD} (k : Candle ℚ)
    (hi : Inv f1 f2 f3 srcs macds s) :
    let x := k.source s.cfg.source
    let macd := f1 (srcs ++ [x]) - f2 (srcs ++ [x])
    ∃ v s', s.vals k none = .ok (v, s') ∧ v.map VExp.value = [macd, f3 (macds ++ [macd])] ∧
      Inv f1 f2 f3 (srcs ++ [x]) (macds ++ [macd]) s' ∧ s'.cfg = s.cfg := by
  intro x macd
  obtain ⟨a, ha, ra⟩ := hi.r1.step x
  obtain ⟨b, hb, rb⟩ := hi.r2.step x
  obtain ⟨c, hc, rc⟩ := hi.r3.step macd
  refine ⟨_, _, by simp only [vals, maNext, bind, Except.bind, fb, x, ha, hb, hc, macd]; rfl, ?_⟩
  exact ⟨rfl, ⟨ra, rb, rc⟩, rfl⟩

theorem run_spec {f1 f2 f3 : List ℚ → ℚ} {s0 : MACD} (h0 : Inv f1 f2 f3 [] [] s0) (cs : List (Candle ℚ)) :
    let diff := fun h : List (Candle ℚ) => f1 (h.map fun k => k.source s0.cfg.source) - f2 (h.map fun k => k.source s0.cfg.source)
    ∃ outs s', runM (fun (s : MACD) k => s.vals k none) s0 cs = .ok (outs, s') ∧ outs.length = cs.length ∧
      ∀ i (hi : i < outs.length),
        (outs[i]).map VExp.value = [diff (cs.take (i + 1)), f3 ((List.range (i + 1)).map fun j => diff (cs.take (j + 1)))] := by
  intro diff
  obtain ⟨os, s', hr, hlen, hout⟩ := runM_from (fun (s : MACD) k => s.vals k none)
    (fun h s => s.cfg = s0.cfg ∧
      Inv f1 f2 f3 (h.map fun k => k.source s0.cfg.source) ((List.range h.length).map fun j => diff (h.take (j + 1))) s)
    (fun h o => o.map VExp.value = [diff h, f3 ((List.range h.length).map fun j => diff (h.take (j + 1)))])
    (s0 := s0) ⟨rfl, h0⟩
    (by
      rintro h s k ⟨hc, hi⟩
      obtain ⟨v, s1, hvv, hval, hi', hc'⟩ := vals_spec k hi
      rw [hc, ← List.map_singleton (f := fun k : Candle ℚ => k.source s0.cfg.source), ← List.map_append] at hval hi'
      rw [prefixes_snoc]
      exact ⟨v, s1, hvv, ⟨hc'.trans hc, hi'⟩, hval⟩)
    cs
  refine ⟨os, s', hr, hlen, fun i hi => ?_⟩
  -- the prefixes of a prefix are prefixes
  have hi' : i < cs.length := hlen ▸ hi
  rw [hout i hi, List.length_take, Nat.min_eq_left (by omega)]
  congr 3
  exact List.map_congr_left fun j hj => by rw [List.take_take, Nat.min_eq_left (by have := List.mem_range.mp hj; omega)]

/-- the `diff` of `run_spec` at the documented formulas of the two kinds -/
def line (c : MACDCfg) (k0 : Candle ℚ) (cs : List (Candle ℚ)) : ℚ :=
  let srcs := cs.map fun k => k.source c.source
  specOf c.ma1.kind c.ma1.length (k0.source c.source) srcs - specOf c.ma2.kind c.ma2.length (k0.source c.source) srcs

end MACD

/-! ### Awesome oscillator: slow average minus fast average of the source -/
namespace AO
structure Inv (f1 f2 : List ℚ → ℚ) (srcs : List ℚ) (s : AO) : Prop where
  r1 : Realises f1 s.ma1 srcs
  r2 : Realises f2 s.ma2 srcs
end AO

/-! ### Detrended price oscillator: the source `period/2 + 1` steps ago minus the average now -/
namespace DPO
structure Inv (P n : Nat) (f : List ℚ → ℚ) (srcs : List ℚ) (s : DPO) : Prop where
  pos : 0 < n
  r : Realises f s.sma srcs
  win : Tracks P n s.window srcs
end DPO

/-! ### Ease of movement: the average of (mid-point move against the candle `period2` back) · range / volume -/
namespace EoM
def raw (k prev : Candle ℚ) : ℚ :=
  if k.volume = 0 then 0 else ((k.high - prev.high) + (k.low - prev.low)) * half * (k.high - k.low) / k.volume

structure Inv (P n : Nat) (f : List ℚ → ℚ) (cs : List (Candle ℚ)) (raws : List ℚ) (s : EoM) : Prop where
  pos : 0 < n
  r : Realises f s.m1 raws
  win : Tracks P n s.w cs
end EoM

/-! ### Elder's force index: the average of (source change over `period2` candles) · (volume of those candles) -/
namespace EFI
structure Inv (P n : Nat) (f : List ℚ → ℚ) (cs : List (Candle ℚ)) (raws : List ℚ) (s : EFI) : Prop where
  pos : 0 < n
  r : Realises f s.ma raws
  win : Tracks P n s.window cs
  vol : s.vol_sum = ((lastN n cs).map fun c => c.volume).sum
end EFI

/-! ### Envelopes: the average times `1 ± k` -/
namespace Env
theorem vals_spec {f : List ℚ → ℚ} {srcs : List ℚ} {s : Env} (k : Candle ℚ) (h : Realises f s.ma srcs) :
    let x := k.source s.cfg.source
    ∃ v s', s.vals k = .ok (v, s') ∧
      v.map VExp.value = [f (srcs ++ [x]) * s.k_high, f (srcs ++ [x]) * s.k_low, k.source s.cfg.source2] ∧
      Realises f s'.ma (srcs ++ [x]) ∧ s'.cfg = s.cfg ∧ s'.k_high = s.k_high ∧ s'.k_low = s.k_low := by
  intro x
  obtain ⟨m, hm, rm⟩ := h.step x
  refine ⟨_, _, by simp only [vals, maNext, bind, Except.bind, x, hm]; rfl, ?_⟩
  exact ⟨rfl, rm, rfl, rfl, rfl⟩

theorem init_ok {P : Nat} (c : EnvCfg) (k0 : Candle ℚ) (hv : Env.validate c = true) (h1 : validLen P c.ma.kind c.ma.length) :
    ∃ s0, Env.init P c k0 = .ok s0 ∧ s0.cfg = c ∧ Realises (specOf c.ma.kind c.ma.length (k0.source c.source)) s0.ma [] ∧
      0 < c.k ∧ s0.k_high = 1 + c.k ∧ s0.k_low = 1 - c.k := by
  obtain ⟨m, hm, rm⟩ := every_kind_realises (P := P) c.ma (k0.source c.source) h1
  refine ⟨_, by rw [Env.init, if_pos hv, hm]; rfl, rfl, rm, ?_, rfl, rfl⟩
  simp only [Env.validate, Bool.and_eq_true, decide_eq_true_eq] at hv
  exact hv.1

/-- the order needs the average not to be negative: hence sources that are not, and an average that stays in their hull -/
theorem run_order {f : List ℚ → ℚ} {srcs : List ℚ} {s0 : Env} {v kk : ℚ} (r : Realises f s0.ma srcs) (hull : HullFn v f)
    (hv : 0 ≤ v) (hs : ∀ x ∈ srcs, 0 ≤ x) (hk : 0 < kk) (hh : s0.k_high = 1 + kk) (hl : s0.k_low = 1 - kk)
    (cs : List (Candle ℚ)) (hcs : ∀ k ∈ cs, 0 ≤ k.source s0.cfg.source) :
    ∃ outs s', runM Env.vals s0 cs = .ok (outs, s') ∧ outs.length = cs.length ∧
      ∀ o ∈ outs, ∃ up lo src2, o.map VExp.value = [up, lo, src2] ∧ lo ≤ up := by
  refine runM_from_mem Env.vals (fun k => 0 ≤ k.source s0.cfg.source)
    (fun _ s => ∃ srcs, Realises f s.ma srcs ∧ s.cfg = s0.cfg ∧ s.k_high = 1 + kk ∧ s.k_low = 1 - kk ∧ ∀ x ∈ srcs, (0 : ℚ) ≤ x)
    _ ⟨srcs, r, rfl, hh, hl, hs⟩ ?_ cs hcs
  rintro _ s k hkk ⟨srcs, r, hc, hh, hl, hnn⟩
  obtain ⟨o, s1, hvv, hval, r', hc', hh', hl'⟩ := vals_spec k r
  rw [hc] at hval r'
  have hall := forall_mem_snoc hnn hkk
  refine ⟨o, s1, hvv, ⟨_, r', hc'.trans hc, hh'.trans hh, hl'.trans hl, hall⟩, _, _, _, hval, ?_⟩
  rw [hh, hl]
  exact mul_le_mul_of_nonneg_left (by linarith) (hull.nonneg _ (List.forall_mem_cons.2 ⟨hv, hall⟩))
end Env

/-! ### Klinger volume oscillator: MACD's scheme on signed volumes -/
namespace Klinger
/-- histories: the signed volumes fed to the two averages, and the oscillator values fed to the signal line -/
structure Inv (f1 f2 f3 : List ℚ → ℚ) (vols kos : List ℚ) (s : Klinger) : Prop where
  r1 : Realises f1 s.ma1 vols
  r2 : Realises f2 s.ma2 vols
  r3 : Realises f3 s.ma3 kos
end Klinger

/-! ### TrueStrengthIndex / SMIErgodic: the TSI method (C03) and a realised smoothing of it -/
namespace TSIx
/-- the TSI method after the sources `srcs`, the smoothing average after the TSI values `ts` -/
structure Inv (aL aS v0 : ℚ) (g : List ℚ → ℚ) (srcs ts : List ℚ) (s : TSIx) : Prop where
  tsi : TSI.Inv aL aS v0 srcs s.tsi
  r : Realises g s.smooth ts

theorem vals_spec {aL aS v0 : ℚ} {g : List ℚ → ℚ} {srcs ts : List ℚ} {s : TSIx} (k : Candle ℚ) (smi : Bool)
    (h : Inv aL aS v0 g srcs ts s) :
    let x := k.source s.cfg.source
    let ch := Spec.changes v0 (srcs ++ [x])
    let num := Spec.emaRec aS 0 (Spec.series (Spec.emaRec aL 0) ch)
    let den := Spec.emaRec aS 0 (Spec.series (Spec.emaRec aL 0) (ch.map sabs))
    let t := if 0 < den then num / den else 0
    ∃ s', s.vals k none smi = .ok
        ((if smi then [.quot num den 2 2 .price [] (some 0), .unit (g (ts ++ [t])) (2 * maK s.smooth),
                       .unit (t - g (ts ++ [t])) (4 * maK s.smooth)]
          else [.quot num den 2 2 .price [] (some 0), .unit (g (ts ++ [t])) (2 * maK s.smooth)]), s') ∧
      Inv aL aS v0 g (srcs ++ [x]) (ts ++ [t]) s' ∧ s'.cfg = s.cfg := by
  intro x ch num den t
  obtain ⟨hinv, _⟩ := TSI.next_spec x h.tsi
  have e12 : (s.tsi.next x).2.ema12.peek = num := by rw [hinv.e12]; rfl
  have e22 : (s.tsi.next x).2.ema22.peek = den := by rw [hinv.e22]; rfl
  obtain ⟨m, hm, rm⟩ := h.r.step t
  refine ⟨{ s with tsi := (s.tsi.next x).2, smooth := m }, ?_, ⟨hinv, rm⟩, rfl⟩
  simp only [t] at hm
  simp only [vals, maNext, bind, Except.bind, fb, x, e12, e22, hm, pure, Except.pure]
  cases smi <;> rfl

theorem value_eq (num den : ℚ) (hd : 0 ≤ den) :
    (VExp.quot num den 2 2 .price [] (some 0)).value = if 0 < den then num / den else 0 := by
  rw [quot_value_nil]
  rcases hd.eq_or_lt with hz | hz
  · rw [← hz, if_pos rfl, if_neg (lt_irrefl _)]
  · rw [if_neg hz.ne', if_pos hz]

/-- stated on variables: at its use `num` and `den` are double smoothings of the whole history -/
theorem quot_value_range (num den : ℚ) (h : |num| ≤ den) :
    -1 ≤ (VExp.quot num den 2 2 .price [] (some 0)).value ∧ (VExp.quot num den 2 2 .price [] (some 0)).value ≤ 1 := by
  rw [value_eq _ _ ((abs_nonneg _).trans h)]
  exact guarded_quot_range _ _ h

theorem init_inv {P : Nat} (c : TSIxCfg) (smooth : MA) (ok : Bool) (k0 : Candle ℚ) (s0 : TSIx)
    (h0 : TSIx.init P c smooth ok k0 = .ok s0) (hs : validLen P smooth.kind smooth.length) :
    ∃ aL aS : ℚ, 0 ≤ aL ∧ aL ≤ 1 ∧ 0 ≤ aS ∧ aS ≤ 1 ∧
      Inv aL aS (k0.source c.source) (specOf smooth.kind smooth.length 0) [] [] s0 := by
  obtain ⟨hc, h0⟩ := Res.ite_eq_ok h0
  simp only [Bool.and_eq_true, decide_eq_true_eq] at hc
  -- the guard of `init`, left to right: `ok`, the periods, then the smoothing length (twice) and the zone (twice)
  obtain ⟨⟨⟨⟨⟨⟨⟨_, (hp2 : c.period2 > 1)⟩, (hp21 : c.period2 ≤ c.period1)⟩, (hp1 : c.period1 < P)⟩, _⟩, _⟩, _⟩, _⟩ := hc
  obtain ⟨t, ht, hti⟩ := TSI.new_spec (K := ℚ) (P := P) (short := c.period2) (long := c.period1) (k0.source c.source)
    (by omega) (by omega) (by omega) (by omega)
  obtain ⟨m, hm, rm⟩ := every_kind_realises (P := P) smooth 0 hs
  rw [ht, hm] at h0
  cases h0
  obtain ⟨aL0, aL1⟩ := ema_alpha_range (K := ℚ) c.period1 (by omega)
  obtain ⟨aS0, aS1⟩ := ema_alpha_range (K := ℚ) c.period2 (by omega)
  exact ⟨_, _, aL0, aL1, aS0, aS1, hti, rm⟩

theorem run_range {aL aS v0 : ℚ} {g : List ℚ → ℚ} {srcs ts : List ℚ} {s0 : TSIx} (smi : Bool)
    (h0 : Inv aL aS v0 g srcs ts s0) (aL0 : 0 ≤ aL) (aL1 : aL ≤ 1) (aS0 : 0 ≤ aS) (aS1 : aS ≤ 1) (hull : HullFn 0 g)
    (hts : ∀ x ∈ ts, (-1 : ℚ) ≤ x ∧ x ≤ 1) (cs : List (Candle ℚ)) :
    ∃ outs s', runM (fun s k => s.vals k none smi) s0 cs = .ok (outs, s') ∧ outs.length = cs.length ∧
      ∀ o ∈ outs, ∃ v0 v1 rest, o = v0 :: v1 :: rest ∧ -1 ≤ v0.value ∧ v0.value ≤ 1 ∧ -1 ≤ v1.value ∧ v1.value ≤ 1 := by
  refine runM_from_mem (fun (s : TSIx) k => s.vals k none smi) (fun _ => True)
    (fun _ s => ∃ srcs ts, Inv aL aS v0 g srcs ts s ∧ ∀ x ∈ ts, (-1 : ℚ) ≤ x ∧ x ≤ 1)
    _ ⟨_, _, h0, hts⟩ ?_ cs (fun _ _ => trivial)
  rintro _ s k _ ⟨srcs, ts, hi, hts⟩
  obtain ⟨s1, hv, hi1, _⟩ := vals_spec k smi hi
  -- |double smoothing of the changes| ≤ double smoothing of their absolute values; the signal line stays in the hull
  have hnd := emaRec_series_dom aL aS aL0 aL1 aS0 aS1 (Spec.changes v0 (srcs ++ [k.source s.cfg.source]))
  obtain ⟨hall, hg⟩ := hull.snoc (by norm_num) hts (guarded_quot_range _ _ hnd)
  have hq := quot_value_range _ _ hnd
  refine ⟨_, s1, hv, ⟨_, _, hi1, hall⟩, ?_⟩
  cases smi
  · exact ⟨_, _, [], rfl, hq.1, hq.2, hg⟩
  · exact ⟨_, _, _, rfl, hq.1, hq.2, hg⟩

end TSIx

end Yata.Ind
