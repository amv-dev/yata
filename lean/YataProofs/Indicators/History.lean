/-
  Indicator models over whole candle histories: what the composed indicators are built from.  `Realises` (a configurable
  average follows a function of its history) is stated with an explicit simulation invariant, so that it composes under
  `MAInst` dispatch and indicator composition; `HLInv` is for a Highest / Lowest pair; `HullFn` says that an average stays
  between the least and the greatest of its inputs.

  The step theorems of the indicator modules (and of YataProps/C05) all end the same way.  A step `X.vals` is a chain of
  `bind`s over the steps of its parts, and the lemma of each part (`Realises.step`, `HLInv.step`, `Tracks.slide`, …) has
  supplied an equation `part.next x = .ok (o, part')`.  Then
  `refine ⟨_, _, by simp only [X.vals, maNext, bind, Except.bind, …the equations…]; rfl, ?_⟩`
  unfolds the chain and rewrites every sub-step with its equation, which leaves `.ok (values, state) = .ok (?v, ?s')`: the
  witnesses `_` are whatever the step has reduced to, and `rfl` assigns them (the new state up to structure eta).
-/
import YataProofs.Indicators.Basic
import YataProofs.Selection
namespace Yata.Ind
open Yata

/-- ℚ as its own exact "float": the selection methods are stated over a `FloatLike` carrier; on ℚ comparison and
    bit-equality are the rational ones -/
instance : FloatLike ℚ ℚ where
  num := id
  lt_iff _ _ := Iff.rfl
  le_iff _ _ := Iff.rfl
  bitEq_refl a := by simp [BitEq.bitEq]
  bitEq_num a b h := by simpa [BitEq.bitEq] using h

/-- the instance `m`, having consumed the inputs `h`, answers `f (h ++ [x])` to every next input `x` and then realises `f`
    after `h ++ [x]`, for ever; `I` is the simulation invariant that carries this along -/
def Realises (f : List ℚ → ℚ) (m : M) (h : List ℚ) : Prop :=
  ∃ I : List ℚ → M → Prop, I h m ∧
    ∀ h m x, I h m → ∃ m', m.next x = .ok (f (h ++ [x]), m') ∧ I (h ++ [x]) m'

theorem Realises.step {f : List ℚ → ℚ} {m : M} {h : List ℚ} (hr : Realises f m h) (x : ℚ) :
    ∃ m', m.next x = .ok (f (h ++ [x]), m') ∧ Realises f m' (h ++ [x]) := by
  obtain ⟨I, hI, hstep⟩ := hr
  obtain ⟨m', hn, hI'⟩ := hstep h m x hI
  exact ⟨m', hn, I, hI', hstep⟩

theorem Realises.run {f : List ℚ → ℚ} {m : M} {h : List ℚ} (hr : Realises f m h) (xs : List ℚ) :
    ∃ outs m', runM MAInst.next m xs = .ok (outs, m') ∧ Realises f m' (h ++ xs) ∧ outs.length = xs.length ∧
      ∀ i (hi : i < outs.length), outs[i] = f (h ++ xs.take (i + 1)) :=
  runM_invariant MAInst.next (fun h m => Realises f m h) (fun h o => o = f h)
    (fun _ _ x hr => let ⟨m', hn, hr'⟩ := hr.step x; ⟨_, m', hn, hr', rfl⟩) xs h m hr

/-- the invariant is "reachable from `m0` by the inputs `h`"; what the step answers is the last output of the run over
    `h ++ [x]` -/
theorem realises_of_run (m0 : M) (f : List ℚ → ℚ)
    (hrun : ∀ xs : List ℚ, ∃ outs s', runM MAInst.next m0 xs = .ok (outs, s') ∧ outs.length = xs.length ∧
      ∀ i (hi : i < outs.length), outs[i] = f (xs.take (i + 1))) :
    Realises f m0 [] := by
  refine ⟨fun h m => ∃ outs, runM MAInst.next m0 h = .ok (outs, m), ⟨[], rfl⟩, ?_⟩
  rintro h m x ⟨outs, hr⟩
  obtain ⟨outs2, s2, hr2, hlen2, hout2⟩ := hrun (h ++ [x])
  have hl : outs.length = h.length := runM_length _ _ _ hr
  rw [runM_append, hr] at hr2
  simp only [runM] at hr2
  cases hn : MAInst.next m x with
  | error e => simp [hn] at hr2
  | ok p =>
    obtain ⟨o, m'⟩ := p
    simp only [hn, Except.ok.injEq, Prod.mk.injEq] at hr2
    obtain ⟨rfl, rfl⟩ := hr2
    have ho := hout2 h.length (by simp [hl])
    rw [List.take_of_length_le (by simp), List.getElem_append_right (by omega)] at ho
    simp only [hl, Nat.sub_self, List.getElem_cons_zero] at ho
    exact ⟨m', by rw [ho], outs ++ [o], by rw [runM_append, hr]; simp [runM, hn]⟩

/-- `inj`: the constructor of the configurable average `M` that wraps the method's state -/
theorem realises_inj {σ : Type} {next : σ → ℚ → Except Panic (ℚ × σ)} (inj : σ → M)
    (hstep : ∀ s x, MAInst.next (inj s) x = (next s x).map fun p => (p.1, inj p.2)) {s0 : σ} {f : List ℚ → ℚ}
    (hrun : ∀ xs : List ℚ, ∃ outs s', runM next s0 xs = .ok (outs, s') ∧ outs.length = xs.length ∧
      ∀ i (hi : i < outs.length), outs[i] = f (xs.take (i + 1))) :
    Realises f (inj s0) [] := by
  refine realises_of_run _ _ fun xs => ?_
  obtain ⟨outs, s', hr, hl, ho⟩ := hrun xs
  exact ⟨outs, inj s', by rw [runM_map_state next MAInst.next inj hstep, hr]; rfl, hl, ho⟩

/-- `hrun` has the shape that `method_spec` and `windowed_spec` give -/
theorem realises_of_conforms {σ : Type} {new : Res σ} {next : σ → ℚ → Except Panic (ℚ × σ)} (inj : σ → M)
    (hstep : ∀ s x, MAInst.next (inj s) x = (next s x).map fun p => (p.1, inj p.2)) {f : List ℚ → ℚ}
    (hrun : ∀ xs : List ℚ, ∃ s0 outs s', new = .ok s0 ∧ runM next s0 xs = .ok (outs, s') ∧ outs.length = xs.length ∧
      ∀ i (hi : i < outs.length), outs[i] = f (xs.take (i + 1))) :
    ∃ m, new.map inj = .ok m ∧ Realises f m [] := by
  obtain ⟨s0, _, _, h0, _⟩ := hrun []
  refine ⟨inj s0, congrArg (Res.map inj) h0, realises_inj inj hstep fun xs => ?_⟩
  obtain ⟨s0', outs, s', h0', hr⟩ := hrun xs
  cases h0.symm.trans h0'
  exact ⟨outs, s', hr⟩

/-- a Highest / Lowest pair of length `n` that has consumed the highs / lows so far -/
structure HLInv (P n : Nat) (highs lows : List ℚ) (h : Highest ℚ) (l : Lowest ℚ) : Prop where
  hi : Highest.Inv P h
  lo : Lowest.Inv P l
  whi : Window.toList h.window = lastN n highs
  wlo : Window.toList l.window = lastN n lows
  lhi : n ≤ highs.length
  llo : n ≤ lows.length
  pos : 0 < n

theorem HLInv.step {P n : Nat} {highs lows : List ℚ} {h : Highest ℚ} {l : Lowest ℚ} (i : HLInv P n highs lows h l)
    (x y : ℚ) :
    ∃ a b h' l', h.next x = .ok (a, h') ∧ l.next y = .ok (b, l') ∧ HLInv P n (highs ++ [x]) (lows ++ [y]) h' l' ∧
      IsMaxOf a (lastN n (highs ++ [x])) ∧ IsMinOf b (lastN n (lows ++ [y])) := by
  obtain ⟨o1, h1, hn1, hinv1, ho1, hw1⟩ := Highest.next_spec x i.hi
  obtain ⟨o2, l1, hn2, hinv2, ho2, hw2⟩ := Lowest.next_spec y i.lo
  have e1 : Window.toList h1.window = lastN n (highs ++ [x]) := by
    rw [hw1, i.whi, lastN_snoc x i.pos i.lhi]
  have e2 : Window.toList l1.window = lastN n (lows ++ [y]) := by
    rw [hw2, i.wlo, lastN_snoc y i.pos i.llo]
  refine ⟨o1, o2, h1, l1, hn1, hn2,
    { hi := hinv1, lo := hinv2, whi := e1, wlo := e2, pos := i.pos,
      lhi := by rw [List.length_append]; exact Nat.le_add_right_of_le i.lhi,
      llo := by rw [List.length_append]; exact Nat.le_add_right_of_le i.llo }, ?_, ?_⟩
  · rw [ho1, ← e1]; exact hinv1.isMax
  · rw [ho2, ← e2]; exact hinv2.isMin

theorem HLInv.new {P n L : Nat} (x y : ℚ) (hn0 : 0 < n) (hn : n ≤ P - 1) (hL : n ≤ L) :
    ∃ h l, Highest.new P n x = .ok h ∧ Lowest.new P n y = .ok l ∧
      HLInv P n (List.replicate L x) (List.replicate L y) h l := by
  obtain ⟨h, hh, hinv, hw⟩ := Highest.new_spec (β := ℚ) (P := P) x hn0 hn
  obtain ⟨l, hl, linv, lw⟩ := Lowest.new_spec (β := ℚ) (P := P) y hn0 hn
  exact ⟨h, l, hh, hl,
    { hi := hinv, lo := linv, whi := by rw [hw, lastN_replicate hL], wlo := by rw [lw, lastN_replicate hL],
      lhi := by rwa [List.length_replicate], llo := by rwa [List.length_replicate], pos := hn0 }⟩

theorem HLInv.le_max {P n : Nat} {highs lows : List ℚ} {h : Highest ℚ} {l : Lowest ℚ} (i : HLInv P n highs lows h l)
    {x a : ℚ} (hmax : IsMaxOf a (lastN n (highs ++ [x]))) : x ≤ a :=
  hmax.2 _ (mem_lastN_snoc _ _ _ i.pos i.lhi)

theorem HLInv.min_le {P n : Nat} {highs lows : List ℚ} {h : Highest ℚ} {l : Lowest ℚ} (i : HLInv P n highs lows h l)
    {y b : ℚ} (hmin : IsMinOf b (lastN n (lows ++ [y]))) : b ≤ y :=
  hmin.2 _ (mem_lastN_snoc _ _ _ i.pos i.llo)

/-- the realised average never leaves the interval spanned by its construction value and its inputs -/
def HullFn (v0 : ℚ) (f : List ℚ → ℚ) : Prop :=
  ∀ (xs : List ℚ) (lo hi : ℚ), (∀ x ∈ v0 :: xs, lo ≤ x ∧ x ≤ hi) → lo ≤ f xs ∧ f xs ≤ hi

theorem HullFn.snoc {v0 : ℚ} {f : List ℚ → ℚ} (h : HullFn v0 f) {lo hi : ℚ} (hv : lo ≤ v0 ∧ v0 ≤ hi) {ts : List ℚ} {t : ℚ}
    (hts : ∀ x ∈ ts, lo ≤ x ∧ x ≤ hi) (ht : lo ≤ t ∧ t ≤ hi) :
    (∀ x ∈ ts ++ [t], lo ≤ x ∧ x ≤ hi) ∧ lo ≤ f (ts ++ [t]) ∧ f (ts ++ [t]) ≤ hi :=
  have hall := forall_mem_snoc hts ht
  ⟨hall, h _ lo hi (List.forall_mem_cons.2 ⟨hv, hall⟩)⟩

/-- of non-negative data it is not negative: they lie between 0 and their sum -/
theorem HullFn.nonneg {v0 : ℚ} {f : List ℚ → ℚ} (h : HullFn v0 f) (xs : List ℚ) (hx : ∀ x ∈ v0 :: xs, 0 ≤ x) : 0 ≤ f xs :=
  (h xs 0 (v0 :: xs).sum fun x hxm => ⟨hx x hxm, List.single_le_sum hx x hxm⟩).1

end Yata.Ind
