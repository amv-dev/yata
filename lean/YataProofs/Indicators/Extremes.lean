/-
  Indicators that read Highest / Lowest trackers: Donchian and price channel (the bounds are the extremes of the last
  `period` highs / lows), Ichimoku (tenkan / kijun are the mid-points of the highest high and lowest low of the last
  l1 / l2 candles, span A is the mean of the two and span B the mid-point over l3 candles, both as they were `m` steps
  ago), Aroon (ages of the newest extremes), Fisher transform (position of the source between the extremes).
-/
import YataProofs.Indicators.History
import YataProofs.SelectionIndex
namespace Yata.Ind
open Yata

namespace Channel

structure Inv (P : Nat) (highs lows : List ℚ) (s : Channel) : Prop where
  hi : Highest.Inv P s.highest
  lo : Lowest.Inv P s.lowest
  whi : Window.toList s.highest.window = lastN s.period highs
  wlo : Window.toList s.lowest.window = lastN s.period lows
  lhi : s.period ≤ highs.length
  llo : s.period ≤ lows.length
  pos : 0 < s.period

theorem Inv.hl {P : Nat} {highs lows : List ℚ} {s : Channel} (h : Inv P highs lows s) :
    HLInv P s.period highs lows s.highest s.lowest := ⟨h.hi, h.lo, h.whi, h.wlo, h.lhi, h.llo, h.pos⟩

theorem Inv.of_hl {P : Nat} {highs lows : List ℚ} {s : Channel} (i : HLInv P s.period highs lows s.highest s.lowest) :
    Inv P highs lows s := ⟨i.hi, i.lo, i.whi, i.wlo, i.lhi, i.llo, i.pos⟩

/-- what a step on the candle `k` from an invariant state `s` returns (`hi`, `lo`) and leaves (`s'`) -/
structure Stepped (P : Nat) (highs lows : List ℚ) (s : Channel) (k : Candle ℚ) (hi lo : ℚ) (s' : Channel) : Prop where
  inv : Inv P (highs ++ [k.high]) (lows ++ [k.low]) s'
  max : IsMaxOf hi (lastN s.period (highs ++ [k.high]))
  min : IsMinOf lo (lastN s.period (lows ++ [k.low]))
  period : s'.period = s.period
  sigma : s'.sigma = s.sigma
  high_le : k.high ≤ hi
  le_low : lo ≤ k.low

theorem Stepped.le {P : Nat} {highs lows : List ℚ} {s s' : Channel} {k : Candle ℚ} {hi lo : ℚ}
    (st : Stepped P highs lows s k hi lo s') (hk : k.low ≤ k.high) : lo ≤ hi :=
  st.le_low.trans (hk.trans st.high_le)

theorem hl_spec {P : Nat} {highs lows : List ℚ} {s : Channel} (k : Candle ℚ) (h : Inv P highs lows s) :
    ∃ hi lo s', s.hl k = .ok (hi, lo, s') ∧ Stepped P highs lows s k hi lo s' := by
  obtain ⟨o1, o2, h1, l1, hn1, hn2, i, hmax, hmin⟩ := h.hl.step k.high k.low
  refine ⟨o1, o2, { s with highest := h1, lowest := l1 }, ?_,
    { inv := .of_hl i, max := hmax, min := hmin, period := rfl, sigma := rfl,
      high_le := h.hl.le_max hmax, le_low := h.hl.min_le hmin }⟩
  simp only [hl, bind, Except.bind, hn1, hn2, pure, Except.pure]

/-- C12: the channel contains the candle it has just consumed -/
theorem contains {P : Nat} {highs lows : List ℚ} {s : Channel} (k : Candle ℚ) (h : Inv P highs lows s) :
    ∃ hi lo s', s.hl k = .ok (hi, lo, s') ∧ k.high ≤ hi ∧ lo ≤ k.low := by
  obtain ⟨hi, lo, s', hn, st⟩ := hl_spec k h
  exact ⟨hi, lo, s', hn, st.high_le, st.le_low⟩

theorem donchian_spec {P : Nat} {highs lows : List ℚ} {s : Channel} (k : Candle ℚ) (h : Inv P highs lows s) :
    ∃ hi lo s', s.donchianVals k = .ok ([.exact lo, .price ((hi + lo) * half) 1, .exact hi], s') ∧
      Stepped P highs lows s k hi lo s' := by
  obtain ⟨hi, lo, s', hn, st⟩ := hl_spec k h
  exact ⟨hi, lo, s', by simp only [donchianVals, hn, bind, Except.bind, pure, Except.pure], st⟩

theorem priceChannel_spec {P : Nat} {highs lows : List ℚ} {s : Channel} (k : Candle ℚ) (h : Inv P highs lows s) :
    ∃ hi lo s', s.priceChannelVals k = .ok ([.price ((hi - (hi + lo) * half) * s.sigma + (hi + lo) * half) 2,
        .price ((hi - (hi + lo) * half) * (-s.sigma) + (hi + lo) * half) 2], s') ∧
      Stepped P highs lows s k hi lo s' := by
  obtain ⟨hi, lo, s', hn, st⟩ := hl_spec k h
  exact ⟨hi, lo, s', by simp only [priceChannelVals, hn, bind, Except.bind, pure, Except.pure], st⟩

theorem init_ok {P n : Nat} (σ : ℚ) (k : Candle ℚ) (hn1 : 1 < n) (hn : n ≤ P - 1) :
    ∃ s, Channel.init P n σ true k = .ok s ∧ s.period = n ∧ s.sigma = σ ∧
      Inv P (List.replicate n k.high) (List.replicate n k.low) s := by
  obtain ⟨h, l, hh, hl, i⟩ := HLInv.new (P := P) (L := n) k.high k.low (by omega) hn le_rfl
  refine ⟨{ period := n, sigma := σ, highest := h, lowest := l }, ?_, rfl, rfl, .of_hl i⟩
  simp only [Channel.init, if_true, hh, hl, Res.bind]

end Channel

namespace Ichi

/-- `as` / `bs`: the undelayed span values formed so far (after `m` copies of the first candle's hl2) -/
structure Inv (P : Nat) (highs lows as bs : List ℚ) (s : Ichi) : Prop where
  p1 : HLInv P s.cfg.l1 highs lows s.h1 s.lo1
  p2 : HLInv P s.cfg.l2 highs lows s.h2 s.lo2
  p3 : HLInv P s.cfg.l3 highs lows s.h3 s.lo3
  t1 : Tracks P s.cfg.m s.w1 as
  t2 : Tracks P s.cfg.m s.w2 bs
  mpos : 0 < s.cfg.m

/-- what a step on the candle `k` from an invariant state `s` returns — the extremes over `l1`, `l2`, `l3` candles and the
    two spans, which are the ones formed `m` steps ago — and leaves (`s'`) -/
structure Stepped (P : Nat) (highs lows as bs : List ℚ) (s : Ichi) (k : Candle ℚ) (hi1 lo1 hi2 lo2 hi3 lo3 spanA spanB : ℚ)
    (s' : Ichi) : Prop where
  max1 : IsMaxOf hi1 (lastN s.cfg.l1 (highs ++ [k.high]))
  min1 : IsMinOf lo1 (lastN s.cfg.l1 (lows ++ [k.low]))
  max2 : IsMaxOf hi2 (lastN s.cfg.l2 (highs ++ [k.high]))
  min2 : IsMinOf lo2 (lastN s.cfg.l2 (lows ++ [k.low]))
  max3 : IsMaxOf hi3 (lastN s.cfg.l3 (highs ++ [k.high]))
  min3 : IsMinOf lo3 (lastN s.cfg.l3 (lows ++ [k.low]))
  delayedA : (lastN s.cfg.m as).head? = some spanA
  delayedB : (lastN s.cfg.m bs).head? = some spanB
  inv : Inv P (highs ++ [k.high]) (lows ++ [k.low]) (as ++ [((hi1 + lo1) * half + (hi2 + lo2) * half) * half])
    (bs ++ [(hi3 + lo3) * half]) s'
  cfg : s'.cfg = s.cfg

theorem vals_spec {P : Nat} {highs lows as bs : List ℚ} {s : Ichi} (k : Candle ℚ) (h : Inv P highs lows as bs s) :
    ∃ hi1 lo1 hi2 lo2 hi3 lo3 spanA spanB s',
      s.vals k = .ok ([.price ((hi1 + lo1) * half) 1, .price ((hi2 + lo2) * half) 1, .price spanA 1, .price spanB 1], s') ∧
      Stepped P highs lows as bs s k hi1 lo1 hi2 lo2 hi3 lo3 spanA spanB s' := by
  obtain ⟨hi1, lo1, h1, l1, hh1, hl1, i1, max1, min1⟩ := h.p1.step k.high k.low
  obtain ⟨hi2, lo2, h2, l2, hh2, hl2, i2, max2, min2⟩ := h.p2.step k.high k.low
  obtain ⟨hi3, lo3, h3, l3, hh3, hl3, i3, max3, min3⟩ := h.p3.step k.high k.low
  obtain ⟨spanA, w1, hw1, t1, _, hA, -⟩ := h.t1.slide h.mpos (((hi1 + lo1) * half + (hi2 + lo2) * half) * half)
  obtain ⟨spanB, w2, hw2, t2, _, hB, -⟩ := h.t2.slide h.mpos ((hi3 + lo3) * half)
  refine ⟨hi1, lo1, hi2, lo2, hi3, lo3, spanA, spanB,
    { s with h1 := h1, h2 := h2, h3 := h3, lo1 := l1, lo2 := l2, lo3 := l3, w1 := w1, w2 := w2 }, ?_,
    { max1, min1, max2, min2, max3, min3, delayedA := congrArg List.head? hA, delayedB := congrArg List.head? hB,
      inv := ⟨i1, i2, i3, t1, t2, h.mpos⟩, cfg := rfl }⟩
  simp only [vals, bind, Except.bind, hh1, hl1, hh2, hl2, hh3, hl3, hw1, hw2, pure, Except.pure]

theorem delayed {α : Type} (m : Nat) (l : List α) (hm : 0 < m) (hl : m ≤ l.length) :
    (lastN m l).head? = l[l.length - m]? := by
  unfold lastN; rw [List.head?_drop]

theorem init_ok {P : Nat} (c : IchiCfg) (k : Candle ℚ) (h1 : 0 < c.l1) (h12 : c.l1 < c.l2) (h23 : c.l2 < c.l3)
    (h3 : c.l3 ≤ P - 1) (hm0 : 0 < c.m) (hm : c.m < P) :
    ∃ s, Ichi.init P c k = .ok s ∧ s.cfg = c ∧
      Inv P (List.replicate c.l3 k.high) (List.replicate c.l3 k.low) (List.replicate c.m k.hl2) (List.replicate c.m k.hl2) s := by
  have h13 : c.l1 ≤ c.l3 := (h12.trans h23).le
  obtain ⟨a, e, ha, he, i1⟩ := HLInv.new (P := P) (n := c.l1) (L := c.l3) k.high k.low h1 (h13.trans h3) h13
  obtain ⟨b, f, hb, hf, i2⟩ := HLInv.new (P := P) (n := c.l2) (L := c.l3) k.high k.low (h1.trans h12) (h23.le.trans h3) h23.le
  obtain ⟨d, g, hd, hg, i3⟩ := HLInv.new (P := P) (n := c.l3) (L := c.l3) k.high k.low ((h1.trans h12).trans h23) h3 le_rfl
  obtain ⟨w, hw, ht⟩ := Tracks.winNew (P := P) (n := c.m) k.hl2 (Nat.le_sub_one_of_lt hm)
  rw [history, List.append_nil] at ht
  have hv : Ichi.validate P c = true := by
    simp only [Ichi.validate, Bool.and_eq_true, decide_eq_true_eq]; exact ⟨⟨⟨h12, h23⟩, hm0⟩, hm⟩
  refine ⟨_, by simp only [Ichi.init, hv, if_true, ha, he, hb, hf, hd, hg, hw, Res.bind]; rfl, ?_⟩
  exact ⟨rfl, i1, i2, i3, ht, ht, hm0⟩

theorem run_ok {P : Nat} (c : IchiCfg) (k0 : Candle ℚ) (h1 : 0 < c.l1) (h12 : c.l1 < c.l2) (h23 : c.l2 < c.l3)
    (h3 : c.l3 ≤ P - 1) (hm0 : 0 < c.m) (hm : c.m < P) (cs : List (Candle ℚ)) :
    ∃ s0 outs s', Ichi.init P c k0 = .ok s0 ∧ runM Ichi.vals s0 cs = .ok (outs, s') ∧ outs.length = cs.length ∧
      ∀ i (hi : i < outs.length), (outs[i]).length = 4 := by
  obtain ⟨s0, h0, _, hinv⟩ := Ichi.init_ok (P := P) c k0 h1 h12 h23 h3 hm0 hm
  refine method_run _ Ichi.vals (fun _ s => ∃ highs lows as bs, Ichi.Inv P highs lows as bs s) (fun _ o => o.length = 4)
    ⟨s0, h0, _, _, _, _, hinv⟩ ?_ cs
  rintro _ s k ⟨highs, lows, as, bs, hi⟩
  obtain ⟨_, _, _, _, _, _, _, _, s1, hv, st⟩ := Ichi.vals_spec k hi
  exact ⟨_, s1, hv, ⟨_, _, _, _, st.inv⟩, rfl⟩

end Ichi

namespace Aroon

theorem counter_step (c : Int) (a b : Bool) :
    (c + 1) * sgn a * sgn b = if a && b then c + 1 else 0 := by
  cases a <;> cases b <;> simp [sgn]

/-- C05 for Aroon: the values are `(period − age)/period`, the ages (`hi`, `li`) those of the newest highest high and of the
    newest lowest low of the last `period` candles -/
theorem vals_spec {P : Nat} {s : Aroon} (k : Candle ℚ)
    (hh : HighestIndex.Inv P s.highest_index) (hl : LowestIndex.Inv P s.lowest_index) :
    ∃ v hi li s', Aroon.vals P s k = .ok (v, (hi, li), s') ∧
      v.map VExp.value = [((s.cfg.period - hi : Nat) : ℚ) / (s.cfg.period : ℚ), ((s.cfg.period - li : Nat) : ℚ) / (s.cfg.period : ℚ)] ∧
      HighestIndex.Inv P s'.highest_index ∧ LowestIndex.Inv P s'.lowest_index ∧
      hi = s'.highest_index.index ∧ li = s'.lowest_index.index ∧
      Window.toList s'.highest_index.window = (Window.toList s.highest_index.window).tail ++ [k.high] ∧
      Window.toList s'.lowest_index.window = (Window.toList s.lowest_index.window).tail ++ [k.low] ∧ s'.cfg = s.cfg := by
  obtain ⟨hi, h1, hn1, hinv1, ho1, hw1⟩ := HighestIndex.next_spec k.high hh
  obtain ⟨li, l1, hn2, hinv2, ho2, hw2⟩ := LowestIndex.next_spec k.low hl
  refine ⟨_, hi, li, _, by simp only [Aroon.vals, bind, Except.bind, hn1, hn2]; rfl, ?_⟩
  exact ⟨rfl, hinv1, hinv2, ho1, ho2, hw1, hw2, rfl⟩

/-- `vals` without the two ages -/
def valsR (P : Nat) (s : Aroon) (k : Candle ℚ) : Except Panic (List VExp × Aroon) :=
  match Aroon.vals P s k with
  | .error e => .error e
  | .ok (v, _, s') => .ok (v, s')

theorem run_range {P : Nat} {s0 : Aroon} (hh : HighestIndex.Inv P s0.highest_index) (hl : LowestIndex.Inv P s0.lowest_index)
    (cs : List (Candle ℚ)) :
    ∃ outs s', runM (valsR P) s0 cs = .ok (outs, s') ∧ outs.length = cs.length ∧
      ∀ i (hi : i < outs.length), ∃ up dn, (outs[i]).map VExp.value = [up, dn] ∧ 0 ≤ up ∧ up ≤ 1 ∧ 0 ≤ dn ∧ dn ≤ 1 := by
  refine runM_from (valsR P)
    (fun _ s => HighestIndex.Inv P s.highest_index ∧ LowestIndex.Inv P s.lowest_index)
    (fun _ o => ∃ up dn, o.map VExp.value = [up, dn] ∧ 0 ≤ up ∧ up ≤ 1 ∧ 0 ≤ dn ∧ dn ≤ 1) ⟨hh, hl⟩ ?_ cs
  rintro _ s k ⟨i1, i2⟩
  obtain ⟨v, hi, li, s1, hvs, hval, j1, j2, _⟩ := vals_spec k i1 i2
  have r1 := aroon_value_range s.cfg.period hi
  have r2 := aroon_value_range s.cfg.period li
  exact ⟨v, s1, by simp only [valsR, hvs], ⟨j1, j2⟩, _, _, hval, r1.1, r1.2, r2.1, r2.2⟩

theorem init_ok {P : Nat} (c : AroonCfg) (k0 : Candle ℚ) (hv : Aroon.validate P c = true) :
    ∃ s0, Aroon.init P c k0 = .ok s0 ∧ s0.cfg = c ∧ HighestIndex.Inv P s0.highest_index ∧
      LowestIndex.Inv P s0.lowest_index := by
  have hvv := hv
  simp only [Aroon.validate, Bool.and_eq_true, decide_eq_true_eq] at hv
  obtain ⟨⟨⟨⟨⟨_, _⟩, (hp1 : c.period > 1)⟩, (hpP : c.period < P)⟩, _⟩, _⟩ := hv
  obtain ⟨l, hl, il, _⟩ := LowestIndex.new_spec (β := ℚ) (P := P) k0.low (by omega : 0 < c.period) (by omega)
  obtain ⟨h, hh, ih, _⟩ := HighestIndex.new_spec (β := ℚ) (P := P) k0.high (by omega : 0 < c.period) (by omega)
  refine ⟨_, by rw [Aroon.init, if_pos hvv, hl, hh]; rfl, ?_⟩
  exact ⟨rfl, ih, il⟩

end Aroon

namespace Fisher
/-- unclamped, it is the position of the source between the extremes mapped to [−1, 1] -/
theorem xOf_unclamped (b src hi lo : ℚ) (hlo : lo ≤ src) (hhi : src ≤ hi) (hne : lo < hi) :
    -1 ≤ (src - lo) / (hi - lo) * 2 + (-1) ∧ (src - lo) / (hi - lo) * 2 + (-1) ≤ 1 := by
  obtain ⟨h0, h1⟩ := div_mem_unit (sub_nonneg.mpr hlo) (sub_le_sub_right hhi lo)
  generalize (src - lo) / (hi - lo) = q at h0 h1
  constructor <;> linarith

structure Inv (P : Nat) (g : List ℚ → ℚ) (srcs cums : List ℚ) (s : Fisher) : Prop where
  hi : Highest.Inv P s.highest
  lo : Lowest.Inv P s.lowest
  whi : Window.toList s.highest.window = lastN s.period1 srcs
  wlo : Window.toList s.lowest.window = lastN s.period1 srcs
  len : s.period1 ≤ srcs.length
  pos : 0 < s.period1
  r : Realises g s.ma1 cums
  prev : s.prev_value = cums.getLastD 0

theorem Inv.hl {P : Nat} {g : List ℚ → ℚ} {srcs cums : List ℚ} {s : Fisher} (h : Inv P g srcs cums s) :
    HLInv P s.period1 srcs srcs s.highest s.lowest := ⟨h.hi, h.lo, h.whi, h.wlo, h.len, h.len, h.pos⟩

theorem Inv.of_hl {P : Nat} {g : List ℚ → ℚ} {srcs cums : List ℚ} {s : Fisher}
    (i : HLInv P s.period1 srcs srcs s.highest s.lowest) (r : Realises g s.ma1 cums) (prev : s.prev_value = cums.getLastD 0) :
    Inv P g srcs cums s := ⟨i.hi, i.lo, i.whi, i.wlo, i.lhi, i.pos, r, prev⟩

end Fisher

end Yata.Ind
