/-
  The table over the 15 kinds of the configurable moving average.  Every kind realises its documented formula `specOf`:
  the conformance theorem of each method (C02 / C03 / C04), seen through the constructor of `MAInst` that wraps it.
  And the laws of C15 for `specOf`: every kind commutes with affine changes of unit, every kind with non-negative
  weights (`smoothKind`) stays in the hull of its inputs — which is what the indicators' range invariants (C12) use.
-/
import YataProofs.Indicators.History
import YataProofs.Numeric.Composite
import YataProofs.Numeric.SWMA
import YataProofs.MALaws2
import YataProofs.SMMLaws
namespace Yata.Ind
open Yata

theorem smm_realises {P n : Nat} (v : ℚ) (hn0 : 0 < n) (hn : n ≤ P - 1) :
    ∃ m, MA.init P { kind := .smm, length := n } v = .ok m ∧ Realises (fun h => Spec.smm n v h) m [] := by
  obtain ⟨s0, hnew, r0⟩ := SMM.Run.new (β := ℚ) (P := P) v hn0 hn
  refine ⟨.smm s0, congrArg (Res.map MAInst.smm) hnew, fun h m => ∃ s, m = .smm s ∧ SMM.Run P n v h s, ⟨s0, rfl, r0⟩, ?_⟩
  rintro h m x ⟨s, rfl, r⟩
  obtain ⟨s1, hst, r1⟩ := r.step hn0 x
  obtain ⟨a, b, hmid, hmed⟩ := r1.median hn0
  refine ⟨.smm s1, ?_, s1, rfl, r1⟩
  simp only [MAInst.next, hst, hmid]
  exact congrArg (fun o => Except.ok (o, MAInst.smm s1)) hmed

/-- the documented formula of each kind, as a function of the inputs fed after construction with `v` -/
def specOf (k : MAKind) (n : Nat) (v : ℚ) : List ℚ → ℚ :=
  let a : ℚ := ((2 : Nat) : ℚ) / ((n + 1 : Nat) : ℚ)
  match k with
  | .sma => fun h => Spec.mean n (lastN n (history n v h))
  | .wma => Spec.wma n v
  | .hma => Spec.hma n v
  | .rma => Spec.emaRec (1 / (n : ℚ)) v
  | .ema => Spec.emaRec a v
  | .dma => e2 a v
  | .dema => fun h => 2 * e1 a v h - e2 a v h
  | .tma => e3 a v
  | .tema => fun h => 3 * (e1 a v h - e2 a v h) + e3 a v h
  | .wsma => Spec.emaRec (1 / (n : ℚ)) v
  | .smm => Spec.smm n v
  | .swma => Spec.swma n v
  | .trima => Spec.trima n v
  | .linreg => Spec.linreg n v
  | .vidya => Spec.vidya n v

/-- lengths for which the kind's constructor succeeds and its formula is the documented one -/
def validLen (P : Nat) (k : MAKind) (n : Nat) : Prop :=
  match k with
  | .hma | .linreg | .swma => 2 ≤ n ∧ n ≤ P - 1
  | .wsma => 0 < n ∧ n ≤ P / 2
  | .rma => 0 < n
  | _ => 0 < n ∧ n ≤ P - 1

theorem validLen.pos {P : Nat} {k : MAKind} {n : Nat} (h : validLen P k n) : 0 < n := by
  cases k <;> simp only [validLen] at h <;> omega

/-- C05: every kind of the configurable moving average realises its documented formula -/
theorem every_kind_realises {P : Nat} (m : MA) (v : ℚ) (h : validLen P m.kind m.length) :
    ∃ i, MA.init P m v = .ok i ∧ Realises (specOf m.kind m.length v) i [] := by
  obtain ⟨k, n⟩ := m
  cases k <;> simp only [validLen] at h
  case sma => exact realises_of_conforms .sma (fun _ _ => rfl) (SMA.run_spec v h.1 h.2)
  case wma => exact realises_of_conforms .wma (fun _ _ => rfl) (WMA.run_spec v h.1 h.2)
  case hma => exact realises_of_conforms .hma (fun _ _ => rfl) (HMA.run_spec v h.1 h.2)
  case swma => exact realises_of_conforms .swma (fun _ _ => rfl) (SWMA.run_spec v h.1 h.2)
  case trima => exact realises_of_conforms .trima (fun _ _ => rfl) (TRIMA.run_spec v h.1 h.2)
  case linreg => exact realises_of_conforms .linreg (fun _ _ => rfl) (LinReg.run_spec v h.1 h.2)
  case vidya => exact realises_of_conforms .vidya (fun _ _ => rfl) (Vidya.run_spec v h.1 h.2)
  case dma =>
    exact ⟨_, congrArg (Res.map MAInst.dma) (ema_family_new v h.1 h.2).1, realises_inj .dma (fun _ _ => rfl) (DMA.run_spec _ v)⟩
  case tma =>
    exact ⟨_, congrArg (Res.map MAInst.tma) (ema_family_new v h.1 h.2).2.1, realises_inj .tma (fun _ _ => rfl) (TMA.run_spec _ v)⟩
  case dema =>
    exact ⟨_, congrArg (Res.map MAInst.dema) (ema_family_new v h.1 h.2).2.2.1,
      realises_inj .dema (fun _ _ => rfl) (DEMA.run_spec _ v)⟩
  case tema =>
    exact ⟨_, congrArg (Res.map MAInst.tema) (ema_family_new v h.1 h.2).2.2.2,
      realises_inj .tema (fun _ _ => rfl) (TEMA.run_spec _ v)⟩
  case ema =>
    exact ⟨_, congrArg (Res.map MAInst.ema) (EMA.new_eq v h.1 h.2),
      realises_inj .ema (fun _ _ => rfl) fun xs => (EMA.run_spec _ v xs).imp fun _ hr => ⟨_, hr⟩⟩
  case wsma =>
    exact ⟨_, congrArg (Res.map MAInst.wsma) (WSMA.new_eq v h.1 h.2),
      realises_inj (fun e => .wsma ⟨e⟩) (fun _ _ => rfl) fun xs => (EMA.run_spec _ v xs).imp fun _ hr => ⟨_, hr⟩⟩
  case rma =>
    exact ⟨_, congrArg (Res.map MAInst.rma) (RMA.new_eq v h),
      realises_inj .rma (fun _ _ => rfl) fun xs => (RMA.run_spec _ v xs).imp fun _ hr => ⟨_, hr⟩⟩
  case smm => exact smm_realises v h.1 h.2

/-- the kinds whose weights are non-negative (all but HMA, DEMA, TEMA, LinReg) -/
def smoothKind : MAKind → Bool
  | .hma | .dema | .tema | .linreg => false
  | _ => true

theorem hullFn_of_kind {P : Nat} (k : MAKind) (n : Nat) (v : ℚ) (hk : smoothKind k = true) (hv : validLen P k n) :
    HullFn v (specOf k n v) := by
  have hn0 := hv.pos
  obtain ⟨a0, a1⟩ := ema_alpha_range (K := ℚ) n hn0
  obtain ⟨r0, r1⟩ := rma_alpha_range (K := ℚ) n hn0
  -- `HullFn v (f v)` unfolds to `Hull f` read at the construction value `v`
  cases k with
  | sma => exact (sma_average n hn0).hull v
  | wma => exact (wma_average n hn0).hull v
  | hma => simp [smoothKind] at hk
  | rma => exact emaRec_hull _ r0 r1 v
  | ema => exact emaRec_hull _ a0 a1 v
  | dma => exact e2_hull _ a0 a1 v
  | dema => simp [smoothKind] at hk
  | tma => exact e3_hull _ a0 a1 v
  | tema => simp [smoothKind] at hk
  | wsma => exact emaRec_hull _ r0 r1 v
  | smm => exact smm_hull n hn0 v
  | swma => exact (swma_average n (by simp only [validLen] at hv; exact hv.1)).hull v
  | trima => exact (trima_average n hn0).hull v
  | linreg => simp [smoothKind] at hk
  | vidya => exact vidya_hull n hn0 v

/-- C15 for every kind at once: the documented formula commutes with every affine change of unit `x ↦ a·x + b`, the
    construction value included; `a ≠ 0` is what SMM and Vidya need -/
theorem specOf_affine {P : Nat} (k : MAKind) (n : Nat) (hv : validLen P k n) (a b v : ℚ) (ha : a ≠ 0) (xs : List ℚ) :
    specOf k n (a * v + b) (xs.map fun x => a * x + b) = a * specOf k n v xs + b := by
  have hn0 := hv.pos
  cases k with
  | sma => exact (sma_average n hn0).affine a b v xs
  | wma => exact (wma_average n hn0).affine a b v xs
  | hma =>
    simp only [validLen] at hv
    exact hma_affine n (by omega) (Nat.sqrt_pos.mpr hn0) a b v xs
  | rma => exact emaRec_affine _ a b v xs
  | ema => exact emaRec_affine _ a b v xs
  | dma => exact e2_affine _ a b v xs
  | dema =>
    show 2 * e1 _ _ _ - e2 _ _ _ = a * (2 * e1 _ v xs - e2 _ v xs) + b
    rw [e1_affine, e2_affine]; ring
  | tma => exact e3_affine _ a b v xs
  | tema =>
    show 3 * (e1 _ _ _ - e2 _ _ _) + e3 _ _ _ = a * (3 * (e1 _ v xs - e2 _ v xs) + e3 _ v xs) + b
    rw [e1_affine, e2_affine, e3_affine]; ring
  | wsma => exact emaRec_affine _ a b v xs
  | smm => exact smm_affine n hn0 a b v ha xs
  | swma => simp only [validLen] at hv; exact (swma_average n hv.1).affine a b v xs
  | trima => exact (trima_average n hn0).affine a b v xs
  | linreg => exact linreg_affine n hn0 a b v xs
  | vidya => exact vidya_affine n a b v ha xs

end Yata.Ind
