/-
  Parabolic SAR: `next` is a flip test (`afterFlip`) followed by bookkeeping; the trend stays ±1, the returned SAR lies on
  the far side of the candle, the signal fires when the returned trend changes.
-/
import YataProofs.Indicators.Basic
namespace Yata.Ind
open Yata

namespace SAR

def Inv (s : SAR) : Prop := s.trend = 1 ∨ s.trend = -1

theorem init_inv (a b : ℚ) (k : Candle ℚ) (s : SAR) (h : SAR.init a b k = .ok s) : Inv s ∧ s.prev_trend = 0 := by
  obtain ⟨_, h⟩ := Res.ite_eq_ok h
  cases h
  exact ⟨Or.inl rfl, rfl⟩

/-- the state after the flip test of `next` (first half of the function) -/
def afterFlip (s : SAR) (k : Candle ℚ) : SAR :=
  if s.trend > 0 then
    let s' := if s.high < k.high then { s with high := k.high, trend_inc := s.trend_inc + 1 } else s
    if k.low < s'.sar then { s' with trend := -s'.trend, low := k.low, trend_inc := 1, sar := s'.high } else s'
  else if s.trend < 0 then
    let s' := if k.low < s.low then { s with low := k.low, trend_inc := s.trend_inc + 1 } else s
    if s'.sar < k.high then { s' with trend := -s'.trend, high := k.high, trend_inc := 1, sar := s'.low } else s'
  else s

theorem next_out (s : SAR) (k : Candle ℚ) :
    (s.next k).1 = ([.price (afterFlip s k).sar 2, .exact ((afterFlip s k).trend : ℚ)],
      Action.ofI8 ((if (afterFlip s k).prev_trend ≠ (afterFlip s k).trend then 1 else 0) * (afterFlip s k).trend)) ∧
    (s.next k).2.trend = (afterFlip s k).trend ∧ (s.next k).2.prev_trend = (afterFlip s k).trend := ⟨rfl, rfl, rfl⟩

theorem next_values (s : SAR) (k : Candle ℚ) :
    ((s.next k).1.1.map VExp.value) = [(afterFlip s k).sar, ((afterFlip s k).trend : ℚ)] := by
  rw [(next_out s k).1]; rfl

/-- `s'`: the state once the extreme has been raised, which touches neither the SAR nor the trend -/
theorem afterFlip_up {s : SAR} (k : Candle ℚ) (h : 0 < s.trend) :
    ∃ s' : SAR, s'.sar = s.sar ∧ s'.trend = s.trend ∧ k.high ≤ s'.high ∧
      afterFlip s k =
        if k.low < s.sar then { s' with trend := -s.trend, low := k.low, trend_inc := 1, sar := s'.high } else s' := by
  unfold afterFlip
  rw [if_pos h]
  by_cases hh : s.high < k.high
  · rw [if_pos hh]; exact ⟨{ s with high := k.high, trend_inc := s.trend_inc + 1 }, rfl, rfl, le_refl _, rfl⟩
  · rw [if_neg hh]; exact ⟨s, rfl, rfl, not_lt.mp hh, rfl⟩

theorem afterFlip_down {s : SAR} (k : Candle ℚ) (h : s.trend < 0) :
    ∃ s' : SAR, s'.sar = s.sar ∧ s'.trend = s.trend ∧ s'.low ≤ k.low ∧
      afterFlip s k =
        if s.sar < k.high then { s' with trend := -s.trend, high := k.high, trend_inc := 1, sar := s'.low } else s' := by
  unfold afterFlip
  rw [if_neg (by omega), if_pos h]
  by_cases hh : k.low < s.low
  · rw [if_pos hh]; exact ⟨{ s with low := k.low, trend_inc := s.trend_inc + 1 }, rfl, rfl, le_refl _, rfl⟩
  · rw [if_neg hh]; exact ⟨s, rfl, rfl, not_lt.mp hh, rfl⟩

/-- C12: the returned SAR is on the far side of the candle: not above the low in an up-trend, not
    below the high in a down-trend; and the trend stays ±1.  Nothing is asked of the candle: a kept trend has passed the
    flip test against this candle, a turned one restarts at an extreme that has just been raised to it. -/
theorem next_side (s : SAR) (k : Candle ℚ) (hi : Inv s) :
    let a := afterFlip s k
    (a.trend = 1 ∨ a.trend = -1) ∧
    (a.trend = 1 → a.sar ≤ k.low) ∧ (a.trend = -1 → k.high ≤ a.sar) := by
  intro a
  rcases hi with h1 | h1
  · obtain ⟨s', e1, e2, hext, ha⟩ := afterFlip_up k (by omega : 0 < s.trend)
    rw [show a = _ from ha]
    split
    · exact ⟨Or.inr (by simp [h1]), fun h => by simp [h1] at h, fun _ => hext⟩
    · rw [e1, e2, h1]; exact ⟨Or.inl rfl, fun _ => not_lt.mp ‹_›, fun h => by omega⟩
  · obtain ⟨s', e1, e2, hext, ha⟩ := afterFlip_down k (by omega : s.trend < 0)
    rw [show a = _ from ha]
    split
    · exact ⟨Or.inl (by simp [h1]), fun _ => hext, fun h => by simp [h1] at h⟩
    · rw [e1, e2, h1]; exact ⟨Or.inr rfl, fun h => by omega, fun _ => not_lt.mp ‹_›⟩

theorem afterFlip_prev_trend (s : SAR) (k : Candle ℚ) : (afterFlip s k).prev_trend = s.prev_trend := by
  unfold afterFlip
  -- the projection goes inside every `if`, and there all branches agree (`split_ifs <;> rfl` is slow to check)
  simp only [apply_ite SAR.prev_trend, ite_self]

theorem next_inv (s : SAR) (k : Candle ℚ) (hi : Inv s) :
    Inv (s.next k).2 ∧ (s.next k).2.prev_trend = (afterFlip s k).trend :=
  ⟨by unfold Inv; rw [(next_out s k).2.1]; exact (next_side s k hi).1, (next_out s k).2.2⟩

/-- the documented rule of the only signal -/
def rule (prev trend : Int) : Action :=
  if prev = trend then Action.none else if trend = 1 then Action.buyAll else Action.sellAll

theorem ofI8_change (p t : Int) (ht : t = 1 ∨ t = -1) : Action.ofI8 ((if p ≠ t then 1 else 0) * t) = rule p t := by
  unfold rule
  by_cases h : p = t
  · rw [if_neg (not_not.mpr h), if_pos h, zero_mul]; rfl
  · rw [if_pos h, if_neg h, one_mul]
    rcases ht with rfl | rfl <;> rfl

/-- C06: the signal fires exactly when the returned trend differs from the previously returned one,
    in the direction of the new trend -/
theorem next_signal (s : SAR) (k : Candle ℚ) (hi : Inv s) : (s.next k).1.2 = rule s.prev_trend (afterFlip s k).trend := by
  rw [(next_out s k).1, afterFlip_prev_trend s k]
  exact ofI8_change _ _ (next_side s k hi).1

/-- the whole run of the (total) step function -/
def run : SAR → List (Candle ℚ) → List (List VExp × Action) × SAR
  | s, [] => ([], s)
  | s, k :: ks => let r := s.next k; let rest := run r.2 ks; (r.1 :: rest.1, rest.2)

theorem run_length (s : SAR) (cs : List (Candle ℚ)) : (run s cs).1.length = cs.length := by
  induction cs generalizing s with
  | nil => rfl
  | cons k ks ih => simp [run, ih]

/-- the states after the flip test of each step (they carry the returned SAR and trend) -/
def flips : SAR → List (Candle ℚ) → List SAR
  | _, [] => []
  | s, k :: ks => afterFlip s k :: flips (s.next k).2 ks

theorem flips_length (s : SAR) (cs : List (Candle ℚ)) : (flips s cs).length = cs.length := by
  induction cs generalizing s with
  | nil => rfl
  | cons k ks ih => simp [flips, ih]

/-- `next_values`, `next_signal` and `next_side` at every step of a stream; the trend the signal compares with is the one
    returned at the step before, the state's `prev_trend` at the first step -/
theorem run_spec (s : SAR) (hs : Inv s) (cs : List (Candle ℚ)) :
    ∀ i (hi : i < cs.length),
      let o := (run s cs).1[i]'(by rw [run_length]; exact hi)
      let f := (flips s cs)[i]'(by rw [flips_length]; exact hi)
      o.1.map VExp.value = [f.sar, (f.trend : ℚ)] ∧
      o.2 = rule (if _h : i = 0 then s.prev_trend else ((flips s cs)[i - 1]'(by rw [flips_length]; omega)).trend) f.trend ∧
      (f.trend = 1 ∨ f.trend = -1) ∧ (f.trend = 1 → f.sar ≤ cs[i].low) ∧ (f.trend = -1 → cs[i].high ≤ f.sar) := by
  induction cs generalizing s with
  | nil => intro i hi; simp at hi
  | cons k ks ih =>
    intro i hi
    cases i with
    | zero =>
      simp only [run, flips, List.getElem_cons_zero, dite_true]
      exact ⟨next_values s k, next_signal s k hs, next_side s k hs⟩
    | succ j =>
      obtain ⟨hinv', hprev⟩ := next_inv s k hs
      have := ih (s.next k).2 hinv' j (by simpa using hi)
      simp only [run, flips, List.getElem_cons_succ]
      refine ⟨this.1, ?_, this.2.2⟩
      rw [this.2.1]
      cases j with
      | zero => simp [hprev]
      | succ m => simp

end SAR
end Yata.Ind
