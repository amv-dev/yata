/-
  Average directional index over whole histories: the averaged true range, the averaged directional movements against the
  candle `period1` steps back, their quotients, and the average of |+DI − −DI| / (+DI + −DI).
-/
import YataProofs.Indicators.RealisesEvery
namespace Yata.Ind
open Yata

namespace ADX

/-- histories: candles consumed, true ranges fed, directional movements fed (not fed while the averaged true range is
    zero), and the inputs of the final average -/
structure Inv (P n : Nat) (gT gP gM gA : List ℚ → ℚ) (cs : List (Candle ℚ)) (trs pdms mdms ts : List ℚ) (s : ADX) : Prop where
  pos : 0 < n
  win : Tracks P n s.window cs
  rT : Realises gT s.tr_ma trs
  rP : Realises gP s.plus_di pdms
  rM : Realises gM s.minus_di mdms
  rA : Realises gA s.ma2 ts

/-- directional movements of candle `k` against the earlier candle `prev` -/
def pdm (k prev : Candle ℚ) : ℚ :=
  if prev.low - k.low < k.high - prev.high ∧ 0 < k.high - prev.high then k.high - prev.high else 0
def mdm (k prev : Candle ℚ) : ℚ :=
  if k.high - prev.high < prev.low - k.low ∧ 0 < prev.low - k.low then prev.low - k.low else 0

/-- the input of the final average as the code computes it (after the `fix:` that guards `s <= 0` and clamps to 1) -/
def tOf (plus minus : ℚ) : ℚ := if plus + minus ≤ 0 then 0 else min (|plus - minus| / (plus + minus)) 1

theorem tOf_range (plus minus : ℚ) : 0 ≤ tOf plus minus ∧ tOf plus minus ≤ 1 := by
  unfold tOf
  split
  · exact ⟨le_refl _, zero_le_one⟩
  · exact ⟨le_min (div_nonneg (abs_nonneg _) (not_le.mp ‹_›).le) zero_le_one, min_le_right _ _⟩

/-- on non-negative quotients (the exact ones are) the guard and the clamp change nothing: the textbook DX -/
theorem tOf_nonneg {plus minus : ℚ} (hp : 0 ≤ plus) (hm : 0 ≤ minus) :
    tOf plus minus = if plus + minus = 0 then 0 else |plus - minus| / (plus + minus) := by
  unfold tOf
  by_cases hz : plus + minus = 0
  · rw [if_pos hz.le, if_pos hz]
  · rw [if_neg (not_le.mpr ((add_nonneg hp hm).lt_of_ne' hz)), if_neg hz, min_eq_left]
    exact (div_mem_unit (abs_nonneg _) (abs_sub_le_add_of_nonneg hp hm)).2

/-- `tOf` in the code's own `abs` / `min` -/
theorem tOf_eq (plus minus : ℚ) :
    (if plus + minus ≤ 0 then 0 else rmin (rabs (plus - minus) / (plus + minus)) 1) = tOf plus minus := by
  rw [rmin_eq_min, rabs_eq_abs]; rfl

theorem vals_spec {P n : Nat} {gT gP gM gA : List ℚ → ℚ} {cs : List (Candle ℚ)} {trs pdms mdms ts : List ℚ} {s : ADX}
    (k : Candle ℚ) (h : Inv P n gT gP gM gA cs trs pdms mdms ts s) :
    ∃ prev, (lastN n cs).head? = some prev ∧
    let trs' := trs ++ [k.trClose s.prev_close]
    let tr := gT trs'
    (tr = 0 →
      ∃ v s', s.vals k none = .ok (v, s', true) ∧ v.map VExp.value = [gA (ts ++ [0]), 0, 0] ∧
        s'.prev_close = s.prev_close ∧ Inv P n gT gP gM gA (cs ++ [k]) trs' pdms mdms (ts ++ [0]) s') ∧
    (tr ≠ 0 →
      let pv := gP (pdms ++ [pdm k prev])
      let mv := gM (mdms ++ [mdm k prev])
      let plus := pv / tr
      let minus := mv / tr
      let t := tOf plus minus
      ∃ v s', s.vals k none = .ok (v, s', false) ∧ v.map VExp.value = [gA (ts ++ [t]), plus, minus] ∧
        s'.prev_close = k.close ∧
        Inv P n gT gP gM gA (cs ++ [k]) trs' (pdms ++ [pdm k prev]) (mdms ++ [mdm k prev]) (ts ++ [t]) s') := by
  obtain ⟨prev, w', hw, tw, _, hprev, -⟩ := h.win.slide h.pos k
  refine ⟨prev, congrArg List.head? hprev, ?_⟩
  intro trs' tr
  obtain ⟨tm, htm, rtm⟩ := h.rT.step (k.trClose s.prev_close)
  constructor
  · intro h0
    obtain ⟨a, ha, ra⟩ := h.rA.step 0
    have e : (gT (trs ++ [k.trClose s.prev_close]) == 0) = true := by simpa using h0
    refine ⟨_, _, by simp only [vals, hw, maNext, htm, bind, Except.bind, e, if_true, ha]; rfl, ?_⟩
    exact ⟨rfl, rfl, h.pos, tw, rtm, h.rP, h.rM, ra⟩
  · intro h0 pv mv plus minus t
    obtain ⟨p, hp, rp⟩ := h.rP.step (pdm k prev)
    obtain ⟨m, hm, rm⟩ := h.rM.step (mdm k prev)
    obtain ⟨a, ha, ra⟩ := h.rA.step t
    have e : (gT (trs ++ [k.trClose s.prev_close]) == 0) = false := by simpa using h0
    -- the model has the directional movements and the input of the final average written out
    simp only [pdm, mdm] at hp hm
    refine ⟨_, _, by
      simp only [vals, hw, maNext, htm, bind, Except.bind, e, fb, Bool.false_eq_true, if_false, hp, hm]
      -- `erw`: `rw` finds neither left side (the goal holds the model's term as `simp only` left it, `ha` the `let`
      -- variables of the statement); they agree up to unfolding
      erw [tOf_eq, ha]
      rfl, ?_⟩
    refine ⟨?_, rfl, h.pos, tw, rtm, rp, rm, ra⟩
    simp only [List.map_cons, List.map_nil, VExp.value, List.any_nil, Bool.or_false, e]
    rfl

theorem init_inv {P : Nat} (m1 m2 : MA) (period1 : Nat) (zone : ℚ) (k : Candle ℚ) (s0 : ADX)
    (h1 : validLen P m1.kind m1.length) (h2 : validLen P m2.kind m2.length)
    (h0 : ADX.init P m1 m2 period1 zone k = .ok s0) :
    Inv P period1 (specOf m1.kind m1.length (k.trClose k.close)) (specOf m1.kind m1.length 0) (specOf m1.kind m1.length 0)
      (specOf m2.kind m2.length 0) (history period1 k []) [] [] [] [] s0 := by
  obtain ⟨t, ht, rt⟩ := every_kind_realises (P := P) m1 (k.trClose k.close) h1
  obtain ⟨p, hp, rp⟩ := every_kind_realises (P := P) m1 0 h1
  obtain ⟨a, ha, ra⟩ := every_kind_realises (P := P) m2 0 h2
  obtain ⟨hc, h0⟩ := Res.ite_eq_ok h0
  simp only [Bool.and_eq_true, decide_eq_true_eq, MA.period, ge_iff_le] at hc
  -- of the nine tests of `init`: the second (`m1.period < P`) and the last but one (`period1 < m1.period`)
  obtain ⟨⟨⟨⟨⟨⟨⟨⟨_, hm1P⟩, _⟩, _⟩, _⟩, _⟩, _⟩, hp1m⟩, _⟩ := hc
  have hm1P : m1.length < P := of_decide_eq_true hm1P
  have hp1m : period1 < m1.length := of_decide_eq_true hp1m
  obtain ⟨w, hw, tw⟩ := Tracks.new (P := P) k (n := period1) (by omega)
  rw [hw, ht, hp, ha] at h0
  cases h0
  exact ⟨by omega, tw, rt, rp, rp, ra⟩

/-- `vals` without its flag "averaged true range vanished" -/
def step (s : ADX) (k : Candle ℚ) : Except Panic (List VExp × ADX) :=
  match s.vals k none with
  | .ok (v, s', _) => .ok (v, s')
  | .error e => .error e

/-- both branches of `vals_spec` at once: the final average is fed some `t ∈ [0, 1]`, whatever the directional
    quotients are (`tOf_range`), which is what the `fix:` guard `s <= 0` / clamp buys -/
theorem step_spec {P n : Nat} {gT gP gM gA : List ℚ → ℚ} {cs : List (Candle ℚ)} {trs pdms mdms ts : List ℚ} {s : ADX}
    (k : Candle ℚ) (h : Inv P n gT gP gM gA cs trs pdms mdms ts s) :
    ∃ t v s' p m, 0 ≤ t ∧ t ≤ 1 ∧ ADX.step s k = .ok (v, s') ∧ v.map VExp.value = [gA (ts ++ [t]), p, m] ∧
      ∃ cs' trs' pdms' mdms', Inv P n gT gP gM gA cs' trs' pdms' mdms' (ts ++ [t]) s' := by
  obtain ⟨prev, _, hz, hnz⟩ := vals_spec k h
  by_cases htr : gT (trs ++ [k.trClose s.prev_close]) = 0
  · obtain ⟨v, s1, hv, hval, _, hi1⟩ := hz htr
    exact ⟨0, v, s1, _, _, le_rfl, zero_le_one, by simp [step, hv], hval, _, _, _, _, hi1⟩
  · obtain ⟨v, s1, hv, hval, _, hi1⟩ := hnz htr
    exact ⟨_, v, s1, _, _, (tOf_range _ _).1, (tOf_range _ _).2, by simp [step, hv], hval, _, _, _, _, hi1⟩

/-- no assumption on the candles.  `smoothKind` (every kind but HMA, DEMA, TEMA, LinReg): the final average stays within
    the hull of its inputs, which `step_spec` puts in [0, 1] -/
theorem run_range {P : Nat} (m1 m2 : MA) (period1 : Nat) (zone : ℚ) (k0 : Candle ℚ) (s0 : ADX)
    (h1 : validLen P m1.kind m1.length) (h2 : validLen P m2.kind m2.length)
    (h0 : ADX.init P m1 m2 period1 zone k0 = .ok s0) (cs : List (Candle ℚ)) :
    ∃ outs s', runM ADX.step s0 cs = .ok (outs, s') ∧ outs.length = cs.length ∧
      ∀ i (hi : i < outs.length), ∃ a p m, (outs[i]).map VExp.value = [a, p, m] ∧
        (smoothKind m2.kind = true → 0 ≤ a ∧ a ≤ 1) := by
  refine runM_from ADX.step
    (fun _ s => ∃ ts, (∀ t ∈ ts, (0 : ℚ) ≤ t ∧ t ≤ 1) ∧ ∃ hc trs pdms mdms, Inv P period1
      (specOf m1.kind m1.length (k0.trClose k0.close)) (specOf m1.kind m1.length 0) (specOf m1.kind m1.length 0)
      (specOf m2.kind m2.length 0) hc trs pdms mdms ts s)
    (fun _ o => ∃ a p m, o.map VExp.value = [a, p, m] ∧ (smoothKind m2.kind = true → 0 ≤ a ∧ a ≤ 1))
    ⟨[], List.forall_mem_nil _, _, _, _, _, init_inv m1 m2 period1 zone k0 s0 h1 h2 h0⟩ ?_ cs
  rintro _ s k ⟨ts, hts, _, _, _, _, hi⟩
  obtain ⟨t, v, s1, p, m, t0, t1, hv, hval, hi1⟩ := step_spec k hi
  exact ⟨v, s1, hv, ⟨_, forall_mem_snoc hts ⟨t0, t1⟩, hi1⟩, _, p, m, hval, fun hs =>
    ((hullFn_of_kind m2.kind m2.length 0 hs h2).snoc ⟨le_rfl, zero_le_one⟩ hts ⟨t0, t1⟩).2⟩

end ADX
end Yata.Ind
