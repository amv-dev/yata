/-
  The two volume-flow indicators, each a quotient of running sums over the last candles.
  Chaikin money flow: Σ CLV·volume over Σ volume of the same last `size` candles; for valid candles (low ≤ close ≤ high,
  volume ≥ 0) |numerator| ≤ denominator, so the value is in [−1, 1] wherever the total volume is not zero.
  Money-flow index: the positive / negative money flows are running sums over the last `period` candles of the
  per-candle flows (volume when the typical price rose / fell against the previous candle), hence non-negative, hence
  the value `pmf/(pmf+nmf)` (½ when there is no negative flow) is in [0, 1].
-/
import YataProofs.Numeric.Composite
import YataProofs.Indicators.Basic
import YataProofs.Candle
namespace Yata.Ind
open Yata

/-- a candle Chaikin money flow can take: the close lies in the candle's range (so CLV is in [−1, 1]) and the volume is
    not negative -/
def goodCandle (c : Candle ℚ) : Prop := c.low ≤ c.close ∧ c.close ≤ c.high ∧ 0 ≤ c.volume

theorem abs_sum_clv_volume_le (l : List (Candle ℚ)) (h : ∀ c ∈ l, goodCandle c) :
    |(l.map fun c => c.clv * c.volume).sum| ≤ (l.map fun c => c.volume).sum := by
  induction l with
  | nil => simp
  | cons a t ih =>
    have ha := h a (by simp)
    have hr := Candle.clv_range a ha.1 ha.2.1
    have h1 : |a.clv * a.volume| ≤ a.volume := by
      rw [abs_mul, abs_of_nonneg ha.2.2]
      exact mul_le_of_le_one_left ha.2.2 (abs_le.mpr hr)
    calc |a.clv * a.volume + (t.map fun c => c.clv * c.volume).sum|
        ≤ |a.clv * a.volume| + |(t.map fun c => c.clv * c.volume).sum| := abs_add_le _ _
      _ ≤ a.volume + (t.map fun c => c.volume).sum := add_le_add h1 (ih (fun c hc => h c (by simp [hc])))

namespace CMF

/-- `hist`: the first candle `size` times, then everything fed -/
structure Inv (P : Nat) (hist : List (Candle ℚ)) (s : CMF) : Prop where
  pos : 0 < s.size
  at_ : Tracks P s.size s.adi.window (hist.map fun c => c.clv * c.volume)
  asum : s.adi.cmf_sum = ((lastN s.size hist).map fun c => c.clv * c.volume).sum
  vt : Tracks P s.size s.window (hist.map fun c => c.volume)
  vsum : s.vol_sum = ((lastN s.size hist).map fun c => c.volume).sum
  good : ∀ c ∈ hist, goodCandle c

theorem Inv.adi {P : Nat} {hist : List (Candle ℚ)} {s : CMF} (h : Inv P hist s) : ADI.Inv P s.size hist s.adi :=
  ⟨h.at_, h.asum⟩

/-- with `div_mem_sym_unit`: the value is in [−1, 1] -/
theorem Inv.abs_num_le {P : Nat} {hist : List (Candle ℚ)} {s : CMF} (h : Inv P hist s) (n : Nat) :
    |((lastN n hist).map fun c => c.clv * c.volume).sum| ≤ ((lastN n hist).map fun c => c.volume).sum :=
  abs_sum_clv_volume_le _ fun c hc => h.good c (List.mem_of_mem_drop hc)

theorem vals_spec {P : Nat} {hist : List (Candle ℚ)} {s : CMF} (k : Candle ℚ) (h : Inv P hist s) (hk : goodCandle k) :
    ∃ s', s.vals k = .ok ([.quot ((lastN s.size (hist ++ [k])).map fun c => c.clv * c.volume).sum
        ((lastN s.size (hist ++ [k])).map fun c => c.volume).sum (s.size : ℚ) (s.size : ℚ) .vol [] none], s') ∧
      Inv P (hist ++ [k]) s' ∧ s'.size = s.size := by
  obtain ⟨_, a, hna, hia, rfl⟩ := ADI.next_spec k h.pos h.adi
  obtain ⟨oldv, vw, hpv, htv, rest, hl, hl'⟩ := h.vt.slide h.pos k.volume
  have hV : s.vol_sum + (k.volume - oldv) = ((lastN s.size (hist ++ [k])).map fun c => c.volume).sum := by
    rw [← lastN_map, List.map_append, List.map_cons, List.map_nil, hl', sum_slide oldv, ← hl, lastN_map, ← h.vsum]
  refine ⟨{ s with adi := a, vol_sum := s.vol_sum + (k.volume - oldv), window := vw }, ?_,
    { pos := h.pos, at_ := hia.tracks, asum := hia.sum, vt := by rw [List.map_append]; exact htv, vsum := hV,
      good := forall_mem_snoc h.good hk }, rfl⟩
  simp only [CMF.vals, hna, hpv, bind, Except.bind, pure, Except.pure, hV]

theorem init_inv {P size : Nat} (k : Candle ℚ) (hk : goodCandle k) (s : CMF) (h : CMF.init P size k = .ok s) :
    Inv P (List.replicate size k) s ∧ s.size = size := by
  obtain ⟨hc, h⟩ := Res.ite_eq_ok h
  simp only [Bool.and_eq_true, decide_eq_true_eq] at hc
  obtain ⟨a, ha, ia⟩ := ADI.new_spec (P := P) (n := size) k (by omega) (by omega)
  obtain ⟨w, hw, tw⟩ := Tracks.winNew (P := P) (n := size) k.volume (by omega)
  rw [ha, hw] at h
  cases h
  rw [history, List.append_nil] at ia tw
  refine ⟨⟨by show 0 < size; omega, ia.tracks, ia.sum, by rw [List.map_replicate]; exact tw, ?_, ?_⟩, rfl⟩
  · show k.volume * (size : ℚ) = _
    rw [lastN_replicate le_rfl, List.map_replicate, sum_replicate_field, mul_comm]
  · intro c hc; rw [(List.mem_replicate.mp hc).2]; exact hk

end CMF

namespace MFI

/-- per-candle flows of the history `H` (each candle against its predecessor, the first against `c0`) -/
def flows (c0 : Candle ℚ) : List (Candle ℚ) → List (ℚ × ℚ)
  | [] => []
  | c :: t => MFI.tfunc c c0 :: flows c t

/-- the candle fed last, `c0` before any: `lastOr c0 H` (by `rfl`) -/
def lastC (c0 : Candle ℚ) (H : List (Candle ℚ)) : Candle ℚ := (c0 :: H).getLast (by simp)

theorem flows_snoc (c0 : Candle ℚ) (H : List (Candle ℚ)) (k : Candle ℚ) :
    flows c0 (H ++ [k]) = flows c0 H ++ [MFI.tfunc k (lastC c0 H)] := by
  induction H generalizing c0 with
  | nil => simp [flows, lastC]
  | cons a t ih =>
    simp only [List.cons_append, flows, ih a]
    rw [show lastC a t = lastC c0 (a :: t) from (lastOr_cons c0 a t).symm]

theorem flows_length (c0 : Candle ℚ) (H : List (Candle ℚ)) : (flows c0 H).length = H.length := by
  induction H generalizing c0 with
  | nil => rfl
  | cons a t ih => simp [flows, ih]

theorem tfunc_nonneg (c l : Candle ℚ) (hv : 0 ≤ c.volume) : 0 ≤ (MFI.tfunc c l).1 ∧ 0 ≤ (MFI.tfunc c l).2 := by
  have key : ∀ (p : Prop) [Decidable p], 0 ≤ if p then c.volume else 0 := fun p _ => by
    split
    · exact hv
    · exact le_rfl
  exact ⟨key _, key _⟩

theorem flows_nonneg (c0 : Candle ℚ) (H : List (Candle ℚ)) (hv : ∀ c ∈ H, 0 ≤ c.volume) :
    ∀ p ∈ flows c0 H, 0 ≤ p.1 ∧ 0 ≤ p.2 := by
  induction H generalizing c0 with
  | nil => simp [flows]
  | cons a t ih =>
    intro p hp
    simp only [flows, List.mem_cons] at hp
    rcases hp with rfl | hp
    · exact tfunc_nonneg a c0 (hv a (by simp))
    · exact ih a (fun c hc => hv c (by simp [hc])) p hp

theorem flows_drop (c0 : Candle ℚ) (H : List (Candle ℚ)) (j : Nat) (hj : j ≤ H.length) :
    (flows c0 H).drop j = flows ((c0 :: H)[j]'(by simp; omega)) (H.drop j) := by
  induction H generalizing c0 j with
  | nil =>
    obtain rfl : j = 0 := by simpa using hj
    rfl
  | cons a t ih =>
    cases j with
    | zero => rfl
    | succ i => exact ih a i (by simpa using hj)

theorem flows_getElem? (c0 : Candle ℚ) (H : List (Candle ℚ)) (j : Nat) (hj : j < H.length) :
    (flows c0 H)[j]? = some (MFI.tfunc (H[j]) ((c0 :: H)[j]'(by simp; omega))) := by
  rw [← List.head?_drop, flows_drop c0 H j hj.le, List.drop_eq_getElem_cons hj]; rfl

theorem lastN_flows (c0 : Candle ℚ) (H : List (Candle ℚ)) (n : Nat) :
    lastN n (flows c0 H) = flows ((c0 :: H)[H.length - n]'(by simp; omega)) (lastN n H) := by
  unfold lastN
  rw [flows_length]
  exact flows_drop c0 H _ (Nat.sub_le _ _)

structure Inv (P : Nat) (c0 : Candle ℚ) (H : List (Candle ℚ)) (s : MFI) : Prop where
  pos : 0 < s.period
  tracks : Tracks P s.period s.window H
  prev : s.prev_candle = lastC c0 H
  /-- the candle just before the window (the first candle itself while the window still holds prehistory) -/
  lprev : s.last_prev_candle = (c0 :: H)[H.length - s.period]'(by simp; omega)
  pmf : s.pmf = ((lastN s.period (flows c0 H)).map Prod.fst).sum
  nmf : s.nmf = ((lastN s.period (flows c0 H)).map Prod.snd).sum
  vol : ∀ p ∈ flows c0 H, 0 ≤ p.1 ∧ 0 ≤ p.2

/-- the code's two guards (`p + n = 0`, `n = 0`) amount to `n = 0` -/
theorem value_eq (p n κ κ' : ℚ) (hp : 0 ≤ p) (hn : 0 ≤ n) :
    (VExp.cquot p (p + n) κ κ' .vol [n] (some half) 0 1).value = (if n = 0 then half else p / (p + n)) := by
  rw [cquot_value_of_mem (div_mem_unit hp (le_add_of_nonneg_right hn)), quot_value]
  by_cases hz : n = 0
  · simp [hz]
  · have : p + n ≠ 0 := (lt_of_lt_of_le (lt_of_le_of_ne hn (Ne.symm hz)) (le_add_of_nonneg_left hp)).ne'
    simp [hz, this]

theorem vals_spec {P : Nat} {c0 : Candle ℚ} {H : List (Candle ℚ)} {s : MFI} (k : Candle ℚ) (h : Inv P c0 H s)
    (hk : 0 ≤ k.volume) :
    ∃ v s', s.vals k = .ok ([.exact (1 - s.zone), v, .exact s.zone], s') ∧ Inv P c0 (H ++ [k]) s' ∧ s'.zone = s.zone ∧
      0 ≤ s'.pmf ∧ 0 ≤ s'.nmf ∧
      v.value = (if s'.nmf = 0 then half else s'.pmf / (s'.pmf + s'.nmf)) ∧ 0 ≤ v.value ∧ v.value ≤ 1 := by
  obtain ⟨old, w', hp, ht', rest, hl, -⟩ := h.tracks.slide h.pos k
  have hlen : s.period ≤ H.length := h.tracks.len
  -- the window of flows slides with the window of candles; what leaves is the flow of `old` against the candle before it
  have hF : lastN s.period (flows c0 H) = MFI.tfunc old s.last_prev_candle :: flows old rest := by
    rw [lastN_flows, ← h.lprev, hl]; rfl
  have hF' : lastN s.period (flows c0 (H ++ [k])) = flows old rest ++ [MFI.tfunc k s.prev_candle] := by
    rw [flows_snoc, lastN_snoc _ h.pos (by rw [flows_length]; exact hlen), hF, h.prev]; rfl
  have hnn : ∀ p ∈ flows c0 (H ++ [k]), 0 ≤ p.1 ∧ 0 ≤ p.2 := by
    rw [flows_snoc]
    exact forall_mem_snoc h.vol (tfunc_nonneg k _ hk)
  have hnn' : ∀ p ∈ flows old rest ++ [MFI.tfunc k s.prev_candle], 0 ≤ p.1 ∧ 0 ≤ p.2 :=
    fun p hp => hnn p (List.mem_of_mem_drop (hF' ▸ hp))
  obtain ⟨hpm, hp0⟩ := sum_slide_nonneg Prod.fst (hF ▸ h.pmf) fun p hp => (hnn' p hp).1
  obtain ⟨hnm, hn0⟩ := sum_slide_nonneg Prod.snd (hF ▸ h.nmf) fun p hp => (hnn' p hp).2
  rw [← hF'] at hpm hnm
  set p' := s.pmf + ((MFI.tfunc k s.prev_candle).1 - (MFI.tfunc old s.last_prev_candle).1)
  set n' := s.nmf + ((MFI.tfunc k s.prev_candle).2 - (MFI.tfunc old s.last_prev_candle).2)
  have hr := half_or_share_range (n' = 0) hp0 (le_add_of_nonneg_right hn0)
  have hval := value_eq p' n' (s.period : ℚ) (2 * (s.period : ℚ)) hp0 hn0
  refine ⟨.cquot p' (p' + n') (s.period : ℚ) (2 * (s.period : ℚ)) .vol [n'] (some half) 0 1,
    { s with window := w', last_prev_candle := old, prev_candle := k, pmf := p', nmf := n' }, ?_,
    ⟨h.pos, ht', (lastOr_snoc c0 H k).symm, ?_, hpm, hnm, hnn⟩, rfl, hp0, hn0, hval, ?_, ?_⟩
  · simp only [MFI.vals, hp, bind, Except.bind, pure, Except.pure]
    rfl
  · -- the candle now in front of the window is the one that left it
    rw [eq_comm, List.getElem_eq_iff]
    show (c0 :: (H ++ [k]))[(H ++ [k]).length - s.period]? = some old
    have e : (H ++ [k]).length - s.period = (H.length - s.period) + 1 := by
      rw [List.length_append, List.length_singleton]; exact Nat.succ_sub hlen
    rw [e, List.getElem?_cons_succ, List.getElem?_append_left (Nat.sub_lt (h.pos.trans_le hlen) h.pos), ← List.head?_drop]
    exact congrArg List.head? hl
  · rw [hval]; exact hr.1
  · rw [hval]; exact hr.2

theorem flows_replicate (k : Candle ℚ) (n : Nat) : flows k (List.replicate n k) = List.replicate n (0, 0) := by
  induction n with
  | zero => rfl
  | succ m ih =>
    simp only [List.replicate_succ, flows, ih]
    congr 1
    simp [MFI.tfunc]

theorem init_inv {P period : Nat} (zone : ℚ) (k : Candle ℚ) (s : MFI) (h : MFI.init P period zone k = .ok s) :
    Inv P k (List.replicate period k) s ∧ s.period = period ∧ s.zone = zone := by
  obtain ⟨hc, h⟩ := Res.ite_eq_ok h
  simp only [Bool.and_eq_true, decide_eq_true_eq] at hc
  obtain ⟨w, hw, ht⟩ := Tracks.new (P := P) (n := period) k (Nat.le_sub_one_of_lt hc.2)
  rw [history, List.append_nil] at ht
  rw [hw] at h
  cases h
  have hf (f : ℚ × ℚ → ℚ) (hf0 : f (0, 0) = 0) :
      (0 : ℚ) = ((lastN period (flows k (List.replicate period k))).map f).sum := by
    rw [flows_replicate, lastN_replicate le_rfl, List.map_replicate, sum_replicate_field, hf0, mul_zero]
  refine ⟨⟨hc.1.2, ht, ?_, ?_, hf Prod.fst rfl, hf Prod.snd rfl, ?_⟩, rfl, rfl⟩
  · unfold lastC
    cases period with
    | zero => rfl
    | succ m => simp [List.getLast_cons, List.getLast_replicate]
  · simp
  · intro p hp
    rw [flows_replicate] at hp
    rw [(List.mem_replicate.mp hp).2]
    exact ⟨le_refl _, le_refl _⟩

end MFI
end Yata.Ind
