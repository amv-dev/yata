/-
  Bands around an average.  Bollinger: centre ± sigma·sqrt(sample variance) of the last `avg_size` sources.  Keltner: the
  configured average ± sigma times a simple average of true ranges, which are never negative for candles with
  low ≤ high — so that upper ≥ lower from every invariant state (YataProps/C12).
-/
import YataProofs.Indicators.RealisesEvery
import YataProofs.Numeric.StDev
import YataProofs.Candle
namespace Yata.Ind
open Yata

namespace BB

/-- C05 (Bollinger).  The model returns centre and variance; the code's bands are `centre ± sigma·sqrt(variance)` -/
theorem step_spec {P : Nat} {hist : List ℚ} {s : BB} (k : Candle ℚ) (hn : 2 ≤ s.cfg.avg_size)
    (hm : SMA.Inv P s.cfg.avg_size hist s.ma) (hd : StDev.Inv P s.cfg.avg_size hist s.st_dev) :
    let n := s.cfg.avg_size
    let w := lastN n (hist ++ [k.source s.cfg.source])
    ∃ s', s.step k = .ok (Spec.mean n w, (w.map fun x => (x - Spec.mean n w) * (x - Spec.mean n w)).sum / ((n - 1 : Nat) : ℚ), s') ∧
      SMA.Inv P n (hist ++ [k.source s.cfg.source]) s'.ma ∧ StDev.Inv P n (hist ++ [k.source s.cfg.source]) s'.st_dev ∧
      s'.cfg = s.cfg := by
  intro n w
  obtain ⟨o1, m1, hn1, hi1, ho1⟩ := SMA.next_spec (k.source s.cfg.source) (by omega) hm
  obtain ⟨o2, d1, hn2, hi2, ho2⟩ := StDev.next_spec (k.source s.cfg.source) hn hd
  refine ⟨{ s with ma := m1, st_dev := d1 }, ?_, hi1, hi2, rfl⟩
  simp only [BB.step, bind, Except.bind, hn1, hn2, pure, Except.pure]
  rw [ho1, ho2, StDev.peekVar_eq hn hi2]

/-- `step` in the shape of a state machine: output (centre, variance) -/
def stepR (s : BB) (k : Candle ℚ) : Except Panic ((ℚ × ℚ) × BB) :=
  match s.step k with
  | .error e => .error e
  | .ok (m, v, s') => .ok ((m, v), s')

theorem run_spec {P : Nat} {hist : List ℚ} {s0 : BB} (hn : 2 ≤ s0.cfg.avg_size) (hm : SMA.Inv P s0.cfg.avg_size hist s0.ma)
    (hd : StDev.Inv P s0.cfg.avg_size hist s0.st_dev) (cs : List (Candle ℚ)) :
    ∃ outs s', runM stepR s0 cs = .ok (outs, s') ∧ outs.length = cs.length ∧
      ∀ i (hi : i < outs.length),
        let n := s0.cfg.avg_size
        let w := lastN n (hist ++ (cs.take (i + 1)).map fun k => k.source s0.cfg.source)
        outs[i] = (Spec.mean n w, (w.map fun x => (x - Spec.mean n w) * (x - Spec.mean n w)).sum / ((n - 1 : Nat) : ℚ)) ∧
        0 ≤ (outs[i]).2 := by
  -- elaborated before it meets the goal: unifying against the `let` of the statement first is slow
  refine (runM_from stepR
    (fun h s => s.cfg = s0.cfg ∧ SMA.Inv P s0.cfg.avg_size (hist ++ h.map fun k => k.source s0.cfg.source) s.ma ∧
      StDev.Inv P s0.cfg.avg_size (hist ++ h.map fun k => k.source s0.cfg.source) s.st_dev)
    (fun h o =>
      let n := s0.cfg.avg_size
      let w := lastN n (hist ++ h.map fun k => k.source s0.cfg.source)
      o = (Spec.mean n w, (w.map fun x => (x - Spec.mean n w) * (x - Spec.mean n w)).sum / ((n - 1 : Nat) : ℚ)) ∧ 0 ≤ o.2)
    (s0 := s0) ⟨rfl, by simpa using hm, by simpa using hd⟩ ?_ cs :)
  rintro h s k ⟨hc, hm, hd⟩
  obtain ⟨s1, hst, i1, i2, hc1⟩ := step_spec k (hc ▸ hn) (hc ▸ hm) (hc ▸ hd)
  rw [hc] at hst i1 i2
  simp only [List.map_append, List.map_cons, List.map_nil, ← List.append_assoc]
  exact ⟨_, s1, by simp only [stepR, hst], ⟨hc1.trans hc, i1, i2⟩, rfl,
    div_nonneg (sum_map_nonneg (fun _ => mul_self_nonneg _) _) (Nat.cast_nonneg _)⟩

theorem init_ok {P : Nat} (c : BBCfg) (k0 : Candle ℚ) (hv : BB.validate P c = true) :
    ∃ s0, BB.init P c k0 = .ok s0 ∧ s0.cfg = c ∧ 2 ≤ c.avg_size ∧
      SMA.Inv P c.avg_size (history c.avg_size (k0.source c.source) []) s0.ma ∧
      StDev.Inv P c.avg_size (history c.avg_size (k0.source c.source) []) s0.st_dev := by
  have hvv := hv
  simp only [BB.validate, Bool.and_eq_true, decide_eq_true_eq] at hv
  obtain ⟨⟨_, (hn2 : c.avg_size > 2)⟩, (hnP : c.avg_size < P)⟩ := hv
  obtain ⟨a, ha, ia⟩ := SMA.new_spec (K := ℚ) (P := P) (k0.source c.source) (by omega : 0 < c.avg_size) (by omega)
  obtain ⟨b, hb, ib⟩ := StDev.new_spec (K := ℚ) (P := P) (k0.source c.source) (by omega : 2 ≤ c.avg_size) (by omega)
  refine ⟨_, by rw [BB.init, if_pos hvv]; simp only [ha, hb, Res.bind]; rfl, ?_⟩
  exact ⟨rfl, by omega, ia, ib⟩

end BB

namespace Keltner

/-- `hist`: the true ranges fed so far, after the `n` copies of `high − low` of the first candle -/
structure Inv (P : Nat) (hist : List ℚ) (s : Keltner) : Prop where
  sma : SMA.Inv P s.cfg.ma.length hist s.sma
  nonneg : ∀ y ∈ hist, 0 ≤ y
  sigma : 0 < s.cfg.sigma
  pos : 0 < s.cfg.ma.length

/-- with `band_le`: the lower band `x − σ·atr` is not above the upper one -/
theorem Inv.atr_nonneg {P : Nat} {hist : List ℚ} {s : Keltner} (h : Inv P hist s) (n : Nat) :
    0 ≤ Spec.mean n (lastN n hist) :=
  Spec.mean_nonneg _ _ fun y hy => h.nonneg y (List.mem_of_mem_drop hy)

/-- nothing is asked of the configured average but that it answers (`x`) -/
theorem vals_of_next {P : Nat} {hist : List ℚ} {s : Keltner} (k : Candle ℚ) (h : Inv P hist s) (hv : k.low ≤ k.high)
    {x : ℚ} {m : M} (hm : s.ma.next (k.source s.cfg.source) = .ok (x, m)) :
    let trs := hist ++ [k.trClose s.prev_close]
    let atr := Spec.mean s.cfg.ma.length (lastN s.cfg.ma.length trs)
    ∃ κ s', s.vals k = .ok ([.exact (k.source s.cfg.source), .price (atr * s.cfg.sigma + x) κ,
        .price (atr * (-s.cfg.sigma) + x) κ], s') ∧
      Inv P trs s' ∧ s'.ma = m ∧ s'.prev_close = k.close ∧ s'.cfg = s.cfg := by
  intro trs atr
  obtain ⟨atr', a, hn, hinv, hatr⟩ := SMA.next_spec (k.trClose s.prev_close) h.pos h.sma
  subst hatr
  refine ⟨_, _, by simp only [Keltner.vals, maNext, bind, Except.bind, hm, hn]; rfl, ?_⟩
  exact ⟨⟨hinv, forall_mem_snoc h.nonneg (k.trClose_nonneg _ hv), h.sigma, h.pos⟩, rfl, rfl, rfl⟩

theorem init_ok {P : Nat} (c : KeltnerCfg) (k0 : Candle ℚ) (hv : Keltner.validate c = true)
    (h1 : validLen P c.ma.kind c.ma.length) (hp : c.ma.length ≤ P - 1) (hk0 : k0.low ≤ k0.high) :
    ∃ s0, Keltner.init P c k0 = .ok s0 ∧ s0.cfg = c ∧ Keltner.Inv P (history c.ma.length (k0.high - k0.low) []) s0 ∧
      Realises (specOf c.ma.kind c.ma.length (k0.source c.source)) s0.ma [] := by
  have hvv := hv
  simp only [Keltner.validate, Bool.and_eq_true, decide_eq_true_eq] at hv
  obtain ⟨hper, hsig⟩ := hv
  have hper' : 1 < c.ma.length := hper
  obtain ⟨m, hm, rm⟩ := every_kind_realises (P := P) c.ma (k0.source c.source) h1
  obtain ⟨a, ha, ia⟩ := SMA.new_spec (K := ℚ) (P := P) (k0.high - k0.low) (by omega : 0 < c.ma.length) hp
  refine ⟨_, by rw [Keltner.init, if_pos hvv, hm]; simp only [Res.bind, MA.period, ha]; rfl, ?_⟩
  refine ⟨rfl, ⟨ia, fun y hy => ?_, hsig, by show 0 < c.ma.length; omega⟩, rm⟩
  simp only [history, List.append_nil, List.mem_replicate] at hy
  rw [hy.2]; linarith

end Keltner
end Yata.Ind
