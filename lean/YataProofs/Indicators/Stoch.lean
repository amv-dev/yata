/-
  Stochastic oscillator over whole histories: %K-rows is (close − lowest low)/(highest high − lowest low) of the last
  `period` candles (½ when the range is empty), the two lines are the configured averages of it, stacked; both stay in
  [0, 1] when the averages stay in the hull of their inputs.
-/
import YataProofs.Indicators.RealisesEvery
namespace Yata.Ind
open Yata

namespace Stoch

structure Inv (P : Nat) (g1 g2 : List ℚ → ℚ) (highs lows krs f1s : List ℚ) (s : Stoch) : Prop where
  hi : Highest.Inv P s.highest
  lo : Lowest.Inv P s.lowest
  whi : Window.toList s.highest.window = lastN s.cfg.period highs
  wlo : Window.toList s.lowest.window = lastN s.cfg.period lows
  lhi : s.cfg.period ≤ highs.length
  llo : s.cfg.period ≤ lows.length
  pos : 0 < s.cfg.period
  r1 : Realises g1 s.ma1 krs
  r2 : Realises g2 s.ma2 f1s

theorem Inv.hl {P : Nat} {g1 g2 : List ℚ → ℚ} {highs lows krs f1s : List ℚ} {s : Stoch} (h : Inv P g1 g2 highs lows krs f1s s) :
    HLInv P s.cfg.period highs lows s.highest s.lowest := ⟨h.hi, h.lo, h.whi, h.wlo, h.lhi, h.llo, h.pos⟩

theorem Inv.of_hl {P : Nat} {g1 g2 : List ℚ → ℚ} {highs lows krs f1s : List ℚ} {s : Stoch}
    (i : HLInv P s.cfg.period highs lows s.highest s.lowest) (r1 : Realises g1 s.ma1 krs) (r2 : Realises g2 s.ma2 f1s) :
    Inv P g1 g2 highs lows krs f1s s := ⟨i.hi, i.lo, i.whi, i.wlo, i.lhi, i.llo, i.pos, r1, r2⟩

/-- C05 for the stochastic oscillator: the k-row is formed from the extremes of the last `period` candles; the first line
    averages the k-rows, the second the first -/
theorem vals_spec {P : Nat} {g1 g2 : List ℚ → ℚ} {highs lows krs f1s : List ℚ} {s : Stoch} (k : Candle ℚ)
    (h : Inv P g1 g2 highs lows krs f1s s) :
    ∃ hi lo v s', s.vals k none = .ok (v, s') ∧
      IsMaxOf hi (lastN s.cfg.period (highs ++ [k.high])) ∧ IsMinOf lo (lastN s.cfg.period (lows ++ [k.low])) ∧
      (let kr := Stoch.kRows k.close hi lo
       let f1 := g1 (krs ++ [kr])
       v.map VExp.value = [f1, g2 (f1s ++ [f1])] ∧
       Inv P g1 g2 (highs ++ [k.high]) (lows ++ [k.low]) (krs ++ [kr]) (f1s ++ [f1]) s') ∧ s'.cfg = s.cfg := by
  obtain ⟨o1, o2, h1, l1, hn1, hn2, i, hmax, hmin⟩ := h.hl.step k.high k.low
  obtain ⟨a, ha, ra⟩ := h.r1.step (Stoch.kRows k.close o1 o2)
  obtain ⟨b, hb, rb⟩ := h.r2.step (g1 (krs ++ [Stoch.kRows k.close o1 o2]))
  refine ⟨o1, o2, _, _, by simp only [vals, maNext, bind, Except.bind, fb, hn1, hn2, ha, hb]; rfl, hmax, hmin, ?_⟩
  exact ⟨⟨rfl, .of_hl i ra rb⟩, rfl⟩

def In01 (l : List ℚ) : Prop := ∀ x ∈ l, 0 ≤ x ∧ x ≤ 1

theorem range_step {P : Nat} {g1 g2 : List ℚ → ℚ} {highs lows krs f1s : List ℚ} {s : Stoch} (k : Candle ℚ) (v0 : ℚ)
    (h : Inv P g1 g2 highs lows krs f1s s) (hv0 : 0 ≤ v0 ∧ v0 ≤ 1) (hg1 : HullFn v0 g1) (hg2 : HullFn v0 g2)
    (hk : In01 krs) (hf : In01 f1s) (hl : k.low ≤ k.close) (hh : k.close ≤ k.high) :
    ∃ v1 v2 kr s', s.vals k none = .ok ([v1, v2], s') ∧
      0 ≤ v1.value ∧ v1.value ≤ 1 ∧ 0 ≤ v2.value ∧ v2.value ≤ 1 ∧
      Inv P g1 g2 (highs ++ [k.high]) (lows ++ [k.low]) (krs ++ [kr]) (f1s ++ [v1.value]) s' ∧
      In01 (krs ++ [kr]) ∧ In01 (f1s ++ [v1.value]) := by
  obtain ⟨hi, lo, v, s', hv, hmax, hmin, hrest, _⟩ := vals_spec k h
  obtain ⟨hval, hinv⟩ := hrest
  -- the extremes contain the candle's low and high, so the close lies between them
  obtain ⟨hk', r1⟩ := hg1.snoc hv0 hk
    (kRows_range k.close hi lo ((h.hl.min_le hmin).trans hl) (hh.trans (h.hl.le_max hmax)))
  obtain ⟨hf', r2⟩ := hg2.snoc hv0 hf r1
  -- `v` has exactly two entries, with these values
  obtain ⟨a, t, rfl, ha, ht⟩ := List.map_eq_cons_iff.mp hval
  obtain ⟨b, t', rfl, hb, ht'⟩ := List.map_eq_cons_iff.mp ht
  obtain rfl := List.map_eq_nil_iff.mp ht'
  rw [← ha] at r1 hinv hf'
  rw [← hb] at r2
  exact ⟨a, b, Stoch.kRows k.close hi lo, s', hv, r1.1, r1.2, r2.1, r2.2, hinv, hk', hf'⟩

theorem run_range {P : Nat} {g1 g2 : List ℚ → ℚ} {highs lows krs f1s : List ℚ} {s0 : Stoch} {v0 : ℚ}
    (h0 : Inv P g1 g2 highs lows krs f1s s0) (hv0 : 0 ≤ v0 ∧ v0 ≤ 1) (hg1 : HullFn v0 g1) (hg2 : HullFn v0 g2)
    (hk : In01 krs) (hf : In01 f1s) (cs : List (Candle ℚ)) (hcs : ∀ k ∈ cs, k.low ≤ k.close ∧ k.close ≤ k.high) :
    ∃ outs s', runM (fun s k => s.vals k none) s0 cs = .ok (outs, s') ∧ outs.length = cs.length ∧
      ∀ o ∈ outs, ∃ v1 v2, o = [v1, v2] ∧ 0 ≤ v1.value ∧ v1.value ≤ 1 ∧ 0 ≤ v2.value ∧ v2.value ≤ 1 := by
  refine runM_from_mem (fun s k => s.vals k none) (fun k : Candle ℚ => k.low ≤ k.close ∧ k.close ≤ k.high)
    (fun _ s => ∃ highs lows krs f1s, Inv P g1 g2 highs lows krs f1s s ∧ In01 krs ∧ In01 f1s) _
    ⟨_, _, _, _, h0, hk, hf⟩ ?_ cs hcs
  rintro _ s k hk ⟨highs, lows, krs, f1s, hi, hkk, hff⟩
  obtain ⟨v1, v2, kr, s1, hvv, a1, a2, b1, b2, hi'⟩ := range_step k v0 hi hv0 hg1 hg2 hkk hff hk.1 hk.2
  exact ⟨_, s1, hvv, ⟨_, _, _, _, hi'⟩, v1, v2, rfl, a1, a2, b1, b2⟩

theorem init_ok {P : Nat} (c : StochCfg) (k : Candle ℚ) (hv : Stoch.validate c = true) (hp : c.period ≤ P - 1)
    (h1 : validLen P c.ma.kind c.ma.length) (h2 : validLen P c.signal.kind c.signal.length) :
    let kr0 := Stoch.kRows k.close k.high k.low
    ∃ s, Stoch.init P c k = .ok s ∧ s.cfg = c ∧
      Inv P (specOf c.ma.kind c.ma.length kr0) (specOf c.signal.kind c.signal.length kr0)
        (List.replicate c.period k.high) (List.replicate c.period k.low) [] [] s := by
  intro kr0
  have hper : 1 < c.period := by
    simp only [Stoch.validate, Bool.and_eq_true, decide_eq_true_eq] at hv
    exact hv.1.1
  obtain ⟨h, l, hh, hl, i⟩ := HLInv.new (P := P) (L := c.period) k.high k.low (by omega) hp le_rfl
  obtain ⟨a, ha, ra⟩ := every_kind_realises (P := P) c.ma kr0 h1
  obtain ⟨b, hb, rb⟩ := every_kind_realises (P := P) c.signal kr0 h2
  refine ⟨_, by unfold Stoch.init; rw [if_pos hv]; simp only; rw [hh, hl, ha, hb]; rfl, ?_⟩
  exact ⟨rfl, .of_hl i ra rb⟩

end Stoch
end Yata.Ind
