/-
  Indicator models (YataModel/Indicators*.lean) in exact rational arithmetic: what every indicator's proofs share and
  what needs no history — value formulas behind their guards, ranges of the quotients, and the readings of signals.
-/
import YataProofs.Scalar
import YataProofs.Cross
import YataProofs.Numeric.Common
import YataModel.Indicators3
namespace Yata.Ind
open Yata

theorem half_mem_unit : 0 ≤ half ∧ half ≤ 1 := by unfold half; constructor <;> norm_num

/-- `(hi + lo) * half` is how Donchian, price channel and Ichimoku form their mid-line -/
theorem midpoint_between {lo hi : ℚ} (h : lo ≤ hi) : lo ≤ (hi + lo) * half ∧ (hi + lo) * half ≤ hi := by
  unfold half; constructor <;> linarith

/-! The indicator models of YataModel/Indicators2.lean have their own rational `abs` / `max` / `min`: they are `sabs` /
  `smax` / `smin` at ℚ, hence Mathlib's. -/

theorem rabs_eq_abs (q : ℚ) : rabs q = |q| := sabs_eq_abs q
theorem rmax_eq_max (a b : ℚ) : rmax a b = max a b := smax_eq_max a b
theorem rmin_eq_min (a b : ℚ) : rmin a b = min a b := smin_eq_min a b

theorem band_le {a σ : ℚ} (ha : 0 ≤ a) (hσ : 0 ≤ σ) (m : ℚ) : a * (-σ) + m ≤ a * σ + m :=
  add_le_add (mul_le_mul_of_nonneg_left (neg_le_self hσ) ha) le_rfl

/-! `VExp.quot n d … g alt` stands for `n / d` unless `d` or a member of `g` is exactly zero, when it is `alt`; `VExp.cquot`
  clamps the quotient besides. -/

/-- the value does not depend on the allowance annotations -/
theorem quot_value (n d κn κd : ℚ) (sc : Scale) (g : List ℚ) (alt : Option ℚ) :
    (VExp.quot n d κn κd sc g alt).value = if d == 0 || g.any (· == 0) then alt.getD 0 else n / d := rfl

theorem quot_value_nil (n d κn κd : ℚ) (sc : Scale) (a : ℚ) :
    (VExp.quot n d κn κd sc [] (some a)).value = if d = 0 then a else n / d := by
  simp only [quot_value, List.any_nil, Bool.or_false, beq_iff_eq, Option.getD_some]

theorem qclamp_of_mem {x lo hi : ℚ} (h1 : lo ≤ x) (h2 : x ≤ hi) : qclamp x lo hi = x := by
  unfold qclamp
  rw [if_neg (not_lt.mpr h1), if_neg (not_lt.mpr h2)]

theorem qclamp_eq {lo hi : ℚ} (h : lo ≤ hi) (x : ℚ) : qclamp x lo hi = max lo (min x hi) :=
  ite_clamp_eq h x

theorem qclamp_range (x : ℚ) {lo hi : ℚ} (h : lo ≤ hi) : lo ≤ qclamp x lo hi ∧ qclamp x lo hi ≤ hi := by
  rw [qclamp_eq h]; exact ⟨le_max_left _ _, max_le h (min_le_right _ _)⟩

theorem qclamp_mono {lo hi x y : ℚ} (h : lo ≤ hi) (hxy : x ≤ y) : qclamp x lo hi ≤ qclamp y lo hi := by
  rw [qclamp_eq h, qclamp_eq h]; exact max_le_max le_rfl (min_le_min hxy le_rfl)

/-- `clampQ b x` (the clamp of the Fisher transform) is `qclamp x (-b) b` -/
theorem clampQ_range (b x : ℚ) (hb : 0 ≤ b) : -b ≤ clampQ b x ∧ clampQ b x ≤ b := qclamp_range x (neg_le_self hb)

theorem clampQ_id (b x : ℚ) (h1 : -b ≤ x) (h2 : x ≤ b) : clampQ b x = x := qclamp_of_mem h1 h2

theorem clampQ_mono (b x y : ℚ) (hb : 0 ≤ b) (h : x ≤ y) : clampQ b x ≤ clampQ b y := qclamp_mono (neg_le_self hb) h

theorem cquot_value (n d κn κd : ℚ) (sc : Scale) (g : List ℚ) (alt : Option ℚ) (lo hi : ℚ) :
    (VExp.cquot n d κn κd sc g alt lo hi).value = if d == 0 || g.any (· == 0) then alt.getD 0 else qclamp (n / d) lo hi := rfl

theorem cquot_value_nil (n d κn κd : ℚ) (sc : Scale) (a lo hi : ℚ) :
    (VExp.cquot n d κn κd sc [] (some a) lo hi).value = if d = 0 then a else qclamp (n / d) lo hi := by
  simp only [cquot_value, List.any_nil, Bool.or_false, beq_iff_eq, Option.getD_some]

theorem cquot_value_of_mem {n d κn κd : ℚ} {sc : Scale} {g : List ℚ} {alt : Option ℚ} {lo hi : ℚ}
    (h : lo ≤ n / d ∧ n / d ≤ hi) :
    (VExp.cquot n d κn κd sc g alt lo hi).value = (VExp.quot n d κn κd sc g alt).value := by
  rw [cquot_value, quot_value, qclamp_of_mem h.1 h.2]

/-- no hypothesis on `n`, `d`: the clamp gives the range whatever rounding has done to the operands -/
theorem cquot_range (n d κn κd : ℚ) (sc : Scale) (g : List ℚ) (a lo hi : ℚ) (h : lo ≤ hi) (ha : lo ≤ a ∧ a ≤ hi) :
    lo ≤ (VExp.cquot n d κn κd sc g (some a) lo hi).value ∧ (VExp.cquot n d κn κd sc g (some a) lo hi).value ≤ hi := by
  rw [cquot_value]
  split
  · simpa using ha
  · exact qclamp_range _ h

/-- the form of RSI and of the money-flow index -/
theorem cquot_half_range (n d κn κd : ℚ) (sc : Scale) (g : List ℚ) :
    0 ≤ (VExp.cquot n d κn κd sc g (some half) 0 1).value ∧ (VExp.cquot n d κn κd sc g (some half) 0 1).value ≤ 1 :=
  cquot_range n d κn κd sc g half 0 1 zero_le_one half_mem_unit

/-- the form of CMO -/
theorem diff_ratio_range (p n : ℚ) (hp : 0 ≤ p) (hn : 0 ≤ n) :
    -1 ≤ (if p + n = 0 then 0 else (p - n) / (p + n)) ∧ (if p + n = 0 then 0 else (p - n) / (p + n)) ≤ 1 :=
  zero_or_quot_range _ (abs_sub_le_add_of_nonneg hp hn)

/-- `c` is whatever the indicator's guard tests (RSI: `pos + neg = 0`, money-flow index: `nmf = 0`, stochastic: `hi = lo`) -/
theorem half_or_share_range (c : Prop) [Decidable c] {a d : ℚ} (ha : 0 ≤ a) (had : a ≤ d) :
    0 ≤ (if c then half else a / d) ∧ (if c then half else a / d) ≤ 1 :=
  ite_between half_mem_unit (div_mem_unit ha had)

theorem kRows_range (close hi lo : ℚ) (h1 : lo ≤ close) (h2 : close ≤ hi) :
    0 ≤ Stoch.kRows close hi lo ∧ Stoch.kRows close hi lo ≤ 1 :=
  half_or_share_range _ (sub_nonneg.mpr h1) (sub_le_sub_right h2 lo)

theorem aroon_value_range (p age : Nat) :
    (0 : ℚ) ≤ ((p - age : Nat) : ℚ) / (p : ℚ) ∧ ((p - age : Nat) : ℚ) / (p : ℚ) ≤ 1 :=
  div_mem_unit (Nat.cast_nonneg _) (by exact_mod_cast Nat.sub_le p age)

/-! The signal rules of the indicator models (C06) compose the crossing rule (C14) with `Action` conversions (C16).  What
  follows are the rewrite rules by which YataProps/C06.lean reads a `Cross` output in terms of the two rule bits, and the
  stateless patterns (buy condition minus sell condition; a gate times a signal). -/

theorem ofI8_sgn_sub (a b : Bool) :
    Action.ofI8 (sgn a - sgn b) =
      if a && !b then Action.buyAll else if b && !a then Action.sellAll else Action.none := by
  cases a <;> cases b <;> rfl

/-- the two detectors inside a `Cross` are fed the same differences, so they remember the same one -/
def Synced (c : Cross ℚ) : Prop := c.up.last_delta = c.down.last_delta

theorem synced_default : Synced (Cross.default : Cross ℚ) := rfl
theorem synced_new (v : ℚ × ℚ) : Synced (Cross.new v) := rfl
theorem synced_next (c : Cross ℚ) (v : ℚ × ℚ) : Synced (c.next v).2 := rfl

/-- the signed crossing value of a `Cross` step as a pair of rule bits -/
def crossI (prev cur : ℚ) : Int := (if crossAboveRule prev cur then 1 else 0) - (if crossUnderRule prev cur then 1 else 0)

theorem cross_next_ofI8 (c : Cross ℚ) (hs : Synced c) (v : ℚ × ℚ) :
    (c.next v).1 = Action.ofI8 (crossI c.up.last_delta (v.1 - v.2)) := by
  obtain ⟨h1, _, _⟩ := Cross.next_def c v
  rw [h1, ← hs]; rfl

/-- the two rules exclude each other, so the signed crossing value determines both -/
theorem crossI_cases (p c : ℚ) :
    (crossAboveRule p c = true ∧ crossUnderRule p c = false ∧ crossI p c = 1) ∨
    (crossAboveRule p c = false ∧ crossUnderRule p c = true ∧ crossI p c = -1) ∨
    (crossAboveRule p c = false ∧ crossUnderRule p c = false ∧ crossI p c = 0) := by
  have hx := cross_rules_exclusive p c
  unfold crossI
  cases ha : crossAboveRule p c <;> cases hu : crossUnderRule p c <;> simp [ha, hu] at hx ⊢

theorem analog_ofI8_crossI (p c : ℚ) : (Action.ofI8 (crossI p c)).analog = crossI p c := by
  rcases crossI_cases p c with ⟨_, _, e⟩ | ⟨_, _, e⟩ | ⟨_, _, e⟩ <;> rw [e] <;> rfl

theorem decide_crossI_pos (p c : ℚ) : decide (crossI p c > 0) = crossAboveRule p c := by
  rcases crossI_cases p c with ⟨a, _, e⟩ | ⟨a, _, e⟩ | ⟨a, _, e⟩ <;> rw [a, e] <;> rfl

theorem decide_crossI_neg (p c : ℚ) : decide (crossI p c < 0) = crossUnderRule p c := by
  rcases crossI_cases p c with ⟨_, u, e⟩ | ⟨_, u, e⟩ | ⟨_, u, e⟩ <;> rw [u, e] <;> rfl

theorem ofI8_crossI_beq_buy (p c : ℚ) : (Action.ofI8 (crossI p c) == Action.buyAll) = crossAboveRule p c := by
  rcases crossI_cases p c with ⟨a, _, e⟩ | ⟨a, _, e⟩ | ⟨a, _, e⟩ <;> rw [a, e] <;> rfl

theorem ofI8_crossI_beq_sell (p c : ℚ) : (Action.ofI8 (crossI p c) == Action.sellAll) = crossUnderRule p c := by
  rcases crossI_cases p c with ⟨_, u, e⟩ | ⟨_, u, e⟩ | ⟨_, u, e⟩ <;> rw [u, e] <;> rfl

theorem ofI8_sgn_sub_of_excl {p q : Prop} [Decidable p] [Decidable q] (h : p → ¬ q) :
    Action.ofI8 (sgn (decide p) - sgn (decide q)) = if p then Action.buyAll else if q then Action.sellAll else Action.none := by
  by_cases hp : p
  · rw [decide_eq_true hp, decide_eq_false (h hp), if_pos hp]; rfl
  · rw [decide_eq_false hp, if_neg hp]
    by_cases hq : q
    · rw [decide_eq_true hq, if_pos hq]; rfl
    · rw [decide_eq_false hq, if_neg hq]; rfl

theorem ofI8_sgn_mul (b : Bool) (t : Int) : Action.ofI8 (sgn b * t) = if b then Action.ofI8 t else Action.none := by
  cases b <;> simp [sgn, Action.ofI8]

end Yata.Ind
