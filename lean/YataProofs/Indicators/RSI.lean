/-
  RSI: `pos / (pos + neg)` of the averaged gains and losses, clamped to [0, 1].  From the constructor, for every kind of
  average, one induction over the stream gives the documented value and its range at every step.
-/
import YataProofs.Indicators.RealisesEvery
namespace Yata.Ind
open Yata
namespace RSI

/-- the losses are fed as they are, non-positive; the code negates their average -/
theorem vals_spec {fp fn : List ℚ → ℚ} {gains losses : List ℚ} {s : RSI} (k : Candle ℚ)
    (hp : Realises fp s.posma gains) (hn : Realises fn s.negma losses) :
    let src := k.source s.cfg.source
    let g := smax (src - s.previous_input) 0
    let l := smin (src - s.previous_input) 0
    let pos := fp (gains ++ [g])
    let neg := -(fn (losses ++ [l]))
    ∃ s', s.vals k = .ok ([.cquot pos (pos + neg) (maK s.posma) (2 * maK s.posma) .price [] (some half) 0 1], s') ∧
      Realises fp s'.posma (gains ++ [g]) ∧ Realises fn s'.negma (losses ++ [l]) ∧
      s'.previous_input = src ∧ s'.cfg = s.cfg := by
  intro src g l pos neg
  obtain ⟨a, ha, ra⟩ := hp.step g
  obtain ⟨b, hb, rb⟩ := hn.step l
  refine ⟨{ s with previous_input := src, posma := a, negma := b }, ?_, ra, rb, rfl, rfl⟩
  simp only [RSI.vals, maNext, bind, Except.bind, ha, hb, pure, Except.pure, src, g, l, pos, neg, mul_neg_one]

theorem value_unclamped (pos neg : ℚ) (h1 : 0 ≤ pos) (h2 : 0 ≤ neg) (hz : pos + neg ≠ 0) :
    qclamp (pos / (pos + neg)) 0 1 = pos / (pos + neg) :=
  have h := div_mem_unit h1 (le_add_of_nonneg_right h2)
  qclamp_of_mem h.1 h.2

/-- the gains / losses fed to the two averages along a stream of sources, starting from the previous source `p` -/
def gains : ℚ → List ℚ → List ℚ
  | _, [] => []
  | p, x :: xs => smax (x - p) 0 :: gains x xs
def losses : ℚ → List ℚ → List ℚ
  | _, [] => []
  | p, x :: xs => smin (x - p) 0 :: losses x xs

theorem gains_eq (p : ℚ) (xs : List ℚ) : gains p xs = (Spec.changes p xs).map (smax · 0) := by
  induction xs generalizing p with
  | nil => rfl
  | cons x t ih => rw [gains, Spec.changes, List.map_cons, ih]

theorem losses_eq (p : ℚ) (xs : List ℚ) : losses p xs = (Spec.changes p xs).map (smin · 0) := by
  induction xs generalizing p with
  | nil => rfl
  | cons x t ih => rw [losses, Spec.changes, List.map_cons, ih]

theorem gains_snoc (p : ℚ) (xs : List ℚ) (x : ℚ) :
    gains p (xs ++ [x]) = gains p xs ++ [smax (x - lastOr p xs) 0] := by
  rw [gains_eq, gains_eq, changes_snoc, List.map_append, List.map_singleton]

theorem losses_snoc (p : ℚ) (xs : List ℚ) (x : ℚ) :
    losses p (xs ++ [x]) = losses p xs ++ [smin (x - lastOr p xs) 0] := by
  rw [losses_eq, losses_eq, changes_snoc, List.map_append, List.map_singleton]

/-- the documented value after the sources `srcs` (first source `p0` from the constructor's candle) -/
def valueOf (c : RSICfg) (p0 : ℚ) (srcs : List ℚ) : ℚ :=
  let pos := specOf c.ma.kind c.ma.length 0 (gains p0 srcs)
  let neg := -(specOf c.ma.kind c.ma.length 0 (losses p0 srcs))
  if pos + neg = 0 then half else qclamp (pos / (pos + neg)) 0 1

theorem run_value_range {P : Nat} (c : RSICfg) (k0 : Candle ℚ) (hv : RSI.validate c = true)
    (h1 : validLen P c.ma.kind c.ma.length) (cs : List (Candle ℚ)) :
    ∃ s0 outs s', RSI.init P c k0 = .ok s0 ∧ runM RSI.vals s0 cs = .ok (outs, s') ∧ outs.length = cs.length ∧
      ∀ i (hi : i < outs.length), ∃ v, outs[i] = [v] ∧
        v.value = valueOf c (k0.source c.source) ((cs.take (i + 1)).map fun k => k.source c.source) ∧
        0 ≤ v.value ∧ v.value ≤ 1 := by
  obtain ⟨a, ha, ra⟩ := every_kind_realises (P := P) c.ma 0 h1
  set p0 := k0.source c.source
  refine method_run (RSI.init P c k0) RSI.vals
    (fun h s => s.cfg = c ∧ s.previous_input = lastOr p0 (h.map fun k => k.source c.source) ∧
      Realises (specOf c.ma.kind c.ma.length 0) s.posma (gains p0 (h.map fun k => k.source c.source)) ∧
      Realises (specOf c.ma.kind c.ma.length 0) s.negma (losses p0 (h.map fun k => k.source c.source)))
    (fun h o => ∃ v, o = [v] ∧ v.value = valueOf c p0 (h.map fun k => k.source c.source) ∧ 0 ≤ v.value ∧ v.value ≤ 1)
    ⟨_, by rw [RSI.init, if_pos hv, ha]; rfl, rfl, rfl, ra, ra⟩ ?_ cs
  rintro h s k ⟨hc, hprev, rp, rn⟩
  obtain ⟨s1, hvv, rp', rn', hprev', hc'⟩ := vals_spec k rp rn
  rw [hc, hprev] at hvv rp' rn'
  simp only [← gains_snoc, ← losses_snoc] at hvv rp' rn'
  simp only [List.map_append, List.map_cons, List.map_nil]
  exact ⟨_, s1, hvv, ⟨hc'.trans hc, by rw [hprev', hc, lastOr_snoc], rp', rn'⟩, _, rfl, cquot_value_nil _ _ _ _ _ _ _ _,
    cquot_half_range _ _ _ _ _ _⟩

theorem gains_scale (a : ℚ) (ha : 0 < a) (p : ℚ) (xs : List ℚ) :
    gains (a * p) (xs.map fun x => a * x) = (gains p xs).map fun x => a * x := by
  have hc := changes_affine a 0 p xs
  simp only [add_zero] at hc
  rw [gains_eq, gains_eq, hc, List.map_map, List.map_map]
  exact List.map_congr_left fun d _ => smax_scale a d ha

theorem losses_scale (a : ℚ) (ha : 0 < a) (p : ℚ) (xs : List ℚ) :
    losses (a * p) (xs.map fun x => a * x) = (losses p xs).map fun x => a * x := by
  have hc := changes_affine a 0 p xs
  simp only [add_zero] at hc
  rw [losses_eq, losses_eq, hc, List.map_map, List.map_map]
  exact List.map_congr_left fun d _ => smin_scale a d ha

end RSI
end Yata.Ind
