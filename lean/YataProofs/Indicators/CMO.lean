/-
  Chande momentum oscillator: the running sums are the sums of the positive / negative parts of the changes in the
  window, hence non-negative, hence the value is in [−1, 1].
-/
import YataProofs.Indicators.Basic
namespace Yata.Ind
open Yata

namespace CMO

/-! The two parts into which the model's `CMO.posNeg` splits a change; by `rfl` they are the `Spec.posPart` /
  `Spec.negPart` of the Vidya specification. -/

def posPart (c : ℚ) : ℚ := (CMO.posNeg c).1
def negPart (c : ℚ) : ℚ := (CMO.posNeg c).2

theorem posPart_nonneg (c : ℚ) : 0 ≤ posPart c := Spec.posPart_nonneg c
theorem negPart_nonneg (c : ℚ) : 0 ≤ negPart c := Spec.negPart_nonneg c

structure Inv (P : Nat) (s : CMO) : Prop where
  winv : Window.Inv P s.window
  wpos : 0 < s.window.size
  cinv : Window.Inv P s.change.window
  cpos : 0 < s.change.window.size
  psum : s.pos_sum = ((Window.toList s.window).map posPart).sum
  nsum : s.neg_sum = ((Window.toList s.window).map negPart).sum

theorem value_eq (p n κ : ℚ) (hp : 0 ≤ p) (hn : 0 ≤ n) :
    (VExp.cquot (p - n) (p + n) κ κ .price [] (some 0) (-1) 1).value = (if p + n = 0 then 0 else (p - n) / (p + n)) := by
  rw [cquot_value_of_mem (diff_over_sum_mem hp hn), quot_value_nil]

theorem vals_spec {P : Nat} {s : CMO} (k : Candle ℚ) (h : Inv P s) :
    ∃ v s', s.vals k = .ok ([v], s') ∧ Inv P s' ∧ 0 ≤ s'.pos_sum ∧ 0 ≤ s'.neg_sum ∧
      v.value = (if s'.pos_sum + s'.neg_sum = 0 then 0 else (s'.pos_sum - s'.neg_sum) / (s'.pos_sum + s'.neg_sum)) ∧
      -1 ≤ v.value ∧ v.value ≤ 1 := by
  obtain ⟨prev, _, cw, _, hcp, cinv', csz, _⟩ := Window.push_cons (k.source s.cfg.source) h.cinv h.cpos
  obtain ⟨old, rest, w', hw, hp, winv', wsz, hw'⟩ := Window.push_cons (k.source s.cfg.source - prev) h.winv h.wpos
  obtain ⟨hps, hp0⟩ := sum_slide_nonneg posPart (x := k.source s.cfg.source - prev) (hw ▸ h.psum)
    fun c _ => posPart_nonneg c
  obtain ⟨hns, hn0⟩ := sum_slide_nonneg negPart (x := k.source s.cfg.source - prev) (hw ▸ h.nsum)
    fun c _ => negPart_nonneg c
  rw [← hw'] at hps hns
  let p := s.pos_sum + (posPart (k.source s.cfg.source - prev) - posPart old)
  let n := s.neg_sum + (negPart (k.source s.cfg.source - prev) - negPart old)
  let s' : CMO := { s with pos_sum := p, neg_sum := n, change := { window := cw }, window := w' }
  have hr := diff_ratio_range p n hp0 hn0
  have hv := value_eq p n (4 * (s.cfg.period : ℚ)) hp0 hn0
  have hinv' : Inv P s' :=
    { winv := winv', wpos := by show 0 < w'.size; rw [wsz]; exact h.wpos, cinv := cinv',
      cpos := by show 0 < cw.size; rw [csz]; exact h.cpos, psum := hps, nsum := hns }
  refine ⟨.cquot (p - n) (p + n) (4 * (s.cfg.period : ℚ)) (4 * (s.cfg.period : ℚ)) .price [] (some 0) (-1) 1, s', ?_,
    hinv', hp0, hn0, hv, hv ▸ hr⟩
  simp only [CMO.vals, Momentum.next, hcp, bind, Except.bind, hp, pure, Except.pure]
  rfl

theorem init_inv {P : Nat} (c : CMOCfg) (k : Candle ℚ) (s : CMO) (h : CMO.init P c k = .ok s) : Inv P s := by
  obtain ⟨hc, h⟩ := Res.ite_eq_ok h
  simp only [Bool.and_eq_true, decide_eq_true_eq] at hc
  obtain ⟨w1, hw1, i1, _, z1⟩ := Window.new_ok (P := P) (k.source c.source) (size := 1) (by omega)
  obtain ⟨w2, hw2, i2, t2, z2⟩ := Window.new_ok (P := P) (0 : ℚ) (size := c.period) (by omega)
  have hm : Momentum.new P 1 (k.source c.source) = .ok { window := w1 } := by
    simp [Momentum.new, show ¬ (1 = P) by omega, winNew, hw1, Res.ofExcept, Res.bind]
  simp only [hm, winNew, hw2, Res.ofExcept, Res.bind] at h
  cases h
  -- the window of changes starts as `period` zeros, whose parts are zero
  have hz (f : ℚ → ℚ) (hf0 : f 0 = 0) : (0 : ℚ) = ((Window.toList w2).map f).sum := by
    rw [t2, List.map_replicate, sum_replicate_field, hf0, mul_zero]
  exact ⟨i2, by show 0 < w2.size; omega, i1, by show 0 < w1.size; omega,
    hz posPart (by simp [posPart, CMO.posNeg]), hz negPart (by simp [negPart, CMO.posNeg])⟩

end CMO
end Yata.Ind
