/-
  TrendStrengthIndex: the value is `p/√q` with `p = (WMA − mean)·Σi` and `q = k·(Σx² − mean·Σx)` over the last `period`
  sources (only its rational parts `p`, `q` are modelled).  It is a correlation coefficient: p² ≤ q (Cauchy–Schwarz between
  the centred positions 1..n and the centred window), so wherever the radicand q is positive the value is in [−1, 1] —
  the documented range.
-/
import YataProofs.Numeric.WMA
import YataModel.Indicators3
import Mathlib.Tactic.FieldSimp
namespace Yata.Ind
open Yata

/-! ### Cauchy–Schwarz on lists, from Lagrange's identity: Σ_t (a·b_t − a_t·b)² ≥ 0, added up by induction -/

theorem sum_cross_sq (l : List (ℚ × ℚ)) (a b : ℚ) :
    (l.map fun p => (p.1 * b - a * p.2) * (p.1 * b - a * p.2)).sum =
      (l.map fun p => p.1 * p.1).sum * (b * b) + a * a * (l.map fun p => p.2 * p.2).sum -
        2 * (a * b) * (l.map fun p => p.1 * p.2).sum := by
  induction l with
  | nil => simp
  | cons x t ih => simp only [List.map_cons, List.sum_cons, ih]; ring

theorem cauchy_list (l : List (ℚ × ℚ)) :
    ((l.map fun p => p.1 * p.2).sum) ^ 2 ≤ ((l.map fun p => p.1 * p.1).sum) * ((l.map fun p => p.2 * p.2).sum) := by
  induction l with
  | nil => simp
  | cons x t ih =>
    have key := sum_map_nonneg (fun p : ℚ × ℚ => mul_self_nonneg (p.1 * x.2 - x.1 * p.2)) t
    rw [sum_cross_sq] at key
    simp only [List.map_cons, List.sum_cons]
    linarith

/-! ### the positions `j, j+1, …` against a centre `c`, paired with the values against `m`; the three sums in closed form -/

def centred (c m : ℚ) : Nat → List ℚ → List (ℚ × ℚ)
  | _, [] => []
  | j, x :: t => ((j : ℚ) - c, x - m) :: centred c m (j + 1) t

/-- `j + (n − 1)/2 − c`: the offset of the mean position from `c` -/
theorem centred_ab (c m : ℚ) (j : Nat) (w : List ℚ) :
    ((centred c m j w).map fun p => p.1 * p.2).sum =
      Spec.rampSum j w - c * w.sum - m * (w.length * (j + ((w.length : ℚ) - 1) / 2 - c)) := by
  induction w generalizing j with
  | nil => simp [centred, Spec.rampSum]
  | cons x t ih =>
    simp only [centred, List.map_cons, List.sum_cons, ih (j + 1), Spec.rampSum, List.length_cons]
    push_cast; ring

/-- `n` consecutive integers have variance `(n² − 1)/12` -/
theorem centred_aa (c m : ℚ) (j : Nat) (w : List ℚ) :
    ((centred c m j w).map fun p => p.1 * p.1).sum =
      w.length * (j + ((w.length : ℚ) - 1) / 2 - c) * (j + ((w.length : ℚ) - 1) / 2 - c) +
        w.length * (w.length + 1) * (w.length - 1) / 12 := by
  induction w generalizing j with
  | nil => simp [centred]
  | cons x t ih =>
    simp only [centred, List.map_cons, List.sum_cons, ih (j + 1), List.length_cons]
    push_cast; ring

theorem centred_bb (c m : ℚ) (j : Nat) (w : List ℚ) :
    ((centred c m j w).map fun p => p.2 * p.2).sum = (w.map fun x => x * x).sum - m * (w.sum + (w.sum - w.length * m)) := by
  induction w generalizing j with
  | nil => simp [centred]
  | cons x t ih =>
    simp only [centred, List.map_cons, List.sum_cons, ih (j + 1), List.length_cons]
    push_cast; ring

theorem correlation_sq_le (w : List ℚ) {n : Nat} (hw : w.length = n) (hn : 0 < n) :
    (Spec.rampSum 1 w - ((n : ℚ) + 1) / 2 * w.sum) ^ 2 ≤
      ((n : ℚ) * (n + 1) * (n - 1) / 12) * ((w.map fun x => x * x).sum - (w.sum / n) * w.sum) := by
  subst hw
  have h := cauchy_list (centred (((w.length : ℚ) + 1) / 2) (w.sum / w.length) 1 w)
  -- the positions are centred at their mean and the values at theirs
  have hd : ((1 : ℕ) : ℚ) + ((w.length : ℚ) - 1) / 2 - ((w.length : ℚ) + 1) / 2 = 0 := by push_cast; ring
  have hm : (w.length : ℚ) * (w.sum / w.length) = w.sum := mul_div_cancel₀ _ (Nat.cast_ne_zero.mpr hn.ne')
  rw [centred_ab, centred_aa, centred_bb, hd, hm] at h
  simpa only [mul_zero, sub_zero, zero_mul, zero_add, sub_self, add_zero] using h

theorem cast_tri_div (n : Nat) : (((n * (n + 1) / 2 : Nat)) : ℚ) = (n : ℚ) * ((n : ℚ) + 1) / 2 :=
  eq_div_of_mul_eq two_ne_zero (by rw [mul_comm]; exact cast_tri n)

/-- `(WMA − mean)·Σi` is the ramp sum against the centred positions -/
theorem tri_scale (R S : ℚ) {n : ℚ} (hn : 0 < n) : (R / (n * (n + 1) / 2) - S / n) * (n * (n + 1) / 2) = R - (n + 1) / 2 * S := by
  field_simp

namespace TSInd

structure Inv (P : Nat) (srcs : List ℚ) (s : TSInd) : Prop where
  pos : 0 < s.period
  win : Tracks P s.period s.window srcs
  wma : WMA.Inv P s.period srcs s.wma
  sy : s.sy = (lastN s.period srcs).sum
  sy2 : s.sy2 = ((lastN s.period srcs).map fun x => x * x).sum

/-- C05 for TrendStrengthIndex: `.sqrtQuot p q` stands for `p / sqrt q`; here `p = (WMA − mean)·Σi` and
    `q = k·(Σx² − mean·Σx)` over the last `period` sources -/
theorem vals_spec {P : Nat} {srcs : List ℚ} {s : TSInd} (src : ℚ) (h : Inv P srcs s) :
    let w := lastN s.period (srcs ++ [src])
    let sy := w.sum
    let sy2 := (w.map fun x => x * x).sum
    let sma := sy / (s.period : ℚ)
    let wma := Spec.rampSum 1 w / ((s.period * (s.period + 1) / 2 : Nat) : ℚ)
    ∃ s', s.vals src = .ok ([.sqrtQuot ((wma - sma) * s.sx) (s.k * (sy2 - sma * sy)) (2 * s.sx) (2 * s.k * (s.period : ℚ))], s') ∧
      Inv P (srcs ++ [src]) s' ∧ s'.sx = s.sx ∧ s'.k = s.k ∧ s'.period = s.period := by
  intro w sy sy2 sma wma
  obtain ⟨past, w', hp, tw, rest, hl, hl'⟩ := h.win.slide h.pos src
  obtain ⟨wv, wm, hwn, hwinv, hwv⟩ := WMA.next_spec src h.pos h.wma
  have e1 : s.sy + (src - past) = sy := by
    rw [h.sy, hl, ← sum_slide, ← hl']
  have e2 : s.sy2 + (src * src - past * past) = sy2 := by
    rw [h.sy2, hl, ← sum_map_slide (fun x : ℚ => x * x), ← hl']
  refine ⟨{ s with window := w', sy := sy, sy2 := sy2, wma := wm }, ?_, ⟨h.pos, tw, hwinv, rfl, rfl⟩, rfl, rfl, rfl⟩
  simp only [vals, hp, hwn, bind, Except.bind, pure, Except.pure, e1, e2, hwv]
  rfl

/-- the constructor's constants: Σi and Σ(i − ī)² for i = 1..period -/
def Consts (s : TSInd) : Prop :=
  s.sx = (s.period : ℚ) * ((s.period : ℚ) + 1) / 2 ∧
  s.k = (s.period : ℚ) * ((s.period : ℚ) + 1) * ((s.period : ℚ) - 1) / 12

theorem init_inv {P period ro : Nat} (zone : ℚ) (source : Source) (src : ℚ) (s : TSInd)
    (h : TSInd.init P period zone ro source src = .ok s) :
    Inv P (List.replicate period src) s ∧ Consts s ∧ s.period = period := by
  obtain ⟨hc, h⟩ := Res.ite_eq_ok h
  simp only [Bool.and_eq_true, decide_eq_true_eq] at hc
  obtain ⟨⟨⟨⟨⟨(hp1 : period > 1), (hpP : period < P)⟩, _⟩, _⟩, _⟩, _⟩ := hc
  have hp0 : 0 < period := Nat.zero_lt_of_lt hp1
  obtain ⟨w, hw, ht⟩ := Tracks.winNew (P := P) (n := period) src (Nat.le_sub_one_of_lt hpP)
  obtain ⟨wm, hwm, hwinv⟩ := WMA.new_spec (K := ℚ) (P := P) (n := period) src hp0 (Nat.le_sub_one_of_lt hpP)
  rw [history, List.append_nil] at ht hwinv
  rw [hw, hwm] at h
  obtain ⟨rv, _, h⟩ := Res.bind_eq_ok (r := ReversalSignal.new P 1 2 (0 : ℚ)) h
  cases h
  have hl : lastN period (List.replicate period src) = List.replicate period src := lastN_replicate le_rfl src
  refine ⟨⟨hp0, ht, hwinv, ?_, ?_⟩, ⟨?_, ?_⟩, rfl⟩
  · show src * (period : ℚ) = _
    rw [hl, sum_replicate_field]; ring
  · show src * src * (period : ℚ) = _
    rw [hl, List.map_replicate, sum_replicate_field]; ring
  · show (((period + 1) * period / 2 : Nat) : ℚ) = _
    rw [Nat.mul_comm (period + 1) period, cast_tri_div]
  · show (((((period + 1) * period / 2) * (2 * period + 1) : Nat)) : ℚ) / 3 -
        ((((period + 1) * ((period + 1) * period / 2) : Nat)) : ℚ) * half = _
    rw [Nat.mul_comm (period + 1) period]
    push_cast
    rw [cast_tri_div]
    unfold half
    ring

/-- C12 (documented range [−1, 1]): `p² ≤ q`, so wherever the radicand is positive the value `p/√q` has square ≤ 1 -/
theorem vals_sq_le {P : Nat} {srcs : List ℚ} {s : TSInd} (src : ℚ) (h : Inv P srcs s) (hc : Consts s) :
    ∃ p q κn κd s', s.vals src = .ok ([.sqrtQuot p q κn κd], s') ∧ p ^ 2 ≤ q ∧ Inv P (srcs ++ [src]) s' ∧ Consts s' := by
  obtain ⟨s', hv, hinv, hsx, hk, hper⟩ := vals_spec src h
  refine ⟨_, _, _, _, s', hv, ?_, hinv, by unfold Consts; rw [hsx, hk, hper]; exact hc⟩
  have hcs := correlation_sq_le (lastN s.period (srcs ++ [src]))
    (lastN_length (by simp only [List.length_append, List.length_singleton]; have := h.win.len; omega)) h.pos
  rw [hc.2, cast_tri_div, hc.1, tri_scale _ _ (by exact_mod_cast h.pos)]
  exact hcs

end TSInd
end Yata.Ind
