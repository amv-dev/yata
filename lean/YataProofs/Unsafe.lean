/-
  The two arms of the shift in `SMM::next` (src/methods/smm.rs), as functions on lists: the `ptr::copy` of the
  `unsafe_performance` build and the `copy_within` of the default build.
-/
import YataModel.Methods.Basic
namespace Yata

/-- the unsafe arm of `SMM::next`: `start`, `dest`, `count` computed branch-free, then
    `ptr::copy(slice + start, slice + dest, count)` (a memmove) -/
def smmUnsafeArgs (oldIndex index : Nat) : Nat × Nat × Nat :=
  let ia := if index > oldIndex then 1 else 0
  ((oldIndex + 1) * ia + index * (1 - ia),
   oldIndex * ia + (index + 1) * (1 - ia),
   (index - oldIndex) * ia + (oldIndex - index) * (1 - ia))

def smmUnsafeShift {β : Type} (l : List β) (oldIndex index : Nat) : List β :=
  if index ≠ oldIndex then
    let (start, dest, count) := smmUnsafeArgs oldIndex index
    copyWithin l start (start + count) dest
  else l

/-- the safe arm: `copy_within((old+1)..=index, old)` / `copy_within(index..old, index+1)` -/
def smmSafeShift {β : Type} (l : List β) (oldIndex index : Nat) : List β :=
  if index > oldIndex then copyWithin l (oldIndex + 1) (index + 1) oldIndex
  else if index < oldIndex then copyWithin l index oldIndex (index + 1)
  else l

end Yata
