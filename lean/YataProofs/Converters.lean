/-
  Time-series converters. CollapseTimeframe (any linear ordered field): the pending candle is the `aggregate` of the last
  `index` inputs. HeikinAshi (any linear ordered field) and Renko (ℚ) are total step functions: one step from a consistent
  state, then the run from any consistent state by induction on the stream. Both branches of a Renko step rest on the brick
  count `bricks` of an excursion beyond the last boundary.
-/
import YataProofs.Candle
import Mathlib.Tactic.Linarith
import YataModel.Methods.Candles
import YataModel.Methods.Renko
import Mathlib.Tactic.FieldSimp
namespace Yata
variable {K : Type} [Field K] [LinearOrder K]

def aggregate : List (Candle K) → Option (Candle K)
  | [] => none
  | x :: xs => some (xs.foldl Candle.add x)

theorem aggregate_snoc (l : List (Candle K)) (x : Candle K) :
    aggregate (l ++ [x]) = some (CollapseTimeframe.accumulate (aggregate l) x) := by
  cases l with
  | nil => rfl
  | cons a t => simp [aggregate, CollapseTimeframe.accumulate, List.foldl_append]

/-- the length after one more input, `q` whole periods and `i` pending candles before it -/
theorem dvd_mul_add_succ_iff {p q i : Nat} (hi : i < p) : p ∣ q * p + i + 1 ↔ i + 1 = p := by
  rw [Nat.add_assoc, Nat.dvd_add_right (Nat.dvd_mul_left p q)]
  exact ⟨fun hd => le_antisymm hi (Nat.le_of_dvd (Nat.succ_pos i) hd), fun e => e ▸ dvd_rfl⟩

namespace CollapseTimeframe

/-- after the inputs `h`: `index` candles are pending, they are the last `index` inputs -/
structure Inv (p : Nat) (h : List (Candle K)) (s : CollapseTimeframe K) : Prop where
  period : s.period = p
  lt : s.index < p
  len : ∃ q, h.length = q * p + s.index
  cur : s.current = aggregate (lastN s.index h)

theorem new_spec (p : Nat) (hp : 0 < p) (c : Candle K) :
    ∃ s, CollapseTimeframe.new p c = .ok s ∧ Inv p [] s := by
  exact ⟨{ current := none, index := 0, period := p }, by simp [CollapseTimeframe.new, Nat.pos_iff_ne_zero.mp hp],
    { period := rfl, lt := hp, len := ⟨0, by simp⟩, cur := by simp [lastN, aggregate] }⟩

end CollapseTimeframe

variable [IsStrictOrderedRing K]

theorem CollapseTimeframe.new_zero (c : Candle K) : CollapseTimeframe.new 0 c = .err .wrongMethodParameters := rfl

namespace HeikinAshi

theorem next_valid (s : HeikinAshi K) (c : Candle K) (hs : 0 < s.next_open)
    (hv : c.validateFinite = true) :
    (s.next c).1.validateFinite = true ∧ 0 < (s.next c).2.next_open ∧ (s.next c).1.volume = c.volume := by
  obtain ⟨hlo, hhi, hpos⟩ := c.ohlc4_mem hv
  obtain ⟨-, -, -, -, -, -, h7, -, h9⟩ := (Candle.validateFinite_iff c).1 hv
  rw [Candle.validateFinite_iff]
  simp only [HeikinAshi.next, smax_eq_max, smin_eq_min]
  -- the output opens at the carried open `o`, closes at `ohlc4`, and has the range of the input widened to hold `o`
  exact ⟨⟨min_le_right _ _, le_max_right _ _,                       -- low ≤ open ≤ high
      (min_le_left _ _).trans hlo, hhi.trans (le_max_left _ _),     -- low ≤ close ≤ high
      hs, hs.trans_le (le_max_right _ _), lt_min h7 hs, hpos, h9⟩,  -- open, high, low, close positive; the volume
    mul_pos (add_pos hs hpos) (one_div_pos.2 (Nat.cast_pos.2 (by norm_num))), trivial⟩

def run : HeikinAshi K → List (Candle K) → List (Candle K) × HeikinAshi K
  | s, [] => ([], s)
  | s, k :: ks => let r := s.next k; let rest := run r.2 ks; (r.1 :: rest.1, rest.2)

theorem run_from (s : HeikinAshi K) (hs : 0 < s.next_open) (cs : List (Candle K))
    (hcs : ∀ c ∈ cs, c.validateFinite = true) :
    let outs := (run s cs).1
    outs.length = cs.length ∧
    (∀ i (hi : i < outs.length) (hj : i < cs.length), (outs[i]).validateFinite = true ∧ (outs[i]).volume = (cs[i]).volume ∧
      (outs[i]).close = (cs[i]).ohlc4) ∧
    (∀ i (hi : i + 1 < outs.length), (outs[i + 1]).open_ = ((outs[i]'(by omega)).open_ + (outs[i]'(by omega)).close) * (1 / ((2 : Nat) : K))) ∧
    (∀ (hi : 0 < outs.length), (outs[0]).open_ = s.next_open) := by
  induction cs generalizing s with
  | nil => simp [run]
  | cons k ks ih =>
    obtain ⟨v1, v2, v3⟩ := next_valid s k hs (hcs k (by simp))
    obtain ⟨a, b, c, d⟩ := ih (s.next k).2 v2 (fun x hx => hcs x (by simp [hx]))
    refine ⟨by simp [run, a], ?_, ?_, fun _ => rfl⟩
    · intro i hi hj
      cases i with
      | zero => exact ⟨v1, v3, rfl⟩
      | succ j => exact b j (by simpa [run] using hi) (by simpa using hj)
    · intro i hi
      cases i with
      | zero => exact d (by simpa [run] using hi)
      | succ j => exact c j (by simpa [run] using hi)

end HeikinAshi

/-- the blocks share the volume equally: `block_volume` is the `len`-th part of it -/
theorem RenkoOut.totalVolume_share {n : ℕ} (hn : 1 ≤ n) (b B v : ℚ) : RenkoOut.totalVolume ⟨n, b, B, v / n⟩ = v :=
  div_mul_cancel₀ v (Nat.cast_ne_zero.2 (Nat.one_le_iff_ne_zero.1 hn))

namespace Renko

structure Inv (s : Renko) : Prop where
  b_pos : 0 < s.brick_size
  b_lt : s.brick_size < 1
  ll_pos : 0 < s.last_block_lower
  le : s.last_block_lower ≤ s.last_block_upper
  nu : s.next_block_upper = s.last_block_upper * (1 + s.brick_size)
  nl : s.next_block_lower = s.last_block_lower * (1 - s.brick_size)

theorem truncNat_ge_one {q : ℚ} (h : 1 ≤ q) : 1 ≤ truncNat q := by
  unfold truncNat
  have : (1 : ℤ) ≤ q.floor := Rat.le_floor_iff.mpr (by exact_mod_cast h)
  omega

theorem truncNat_cast {q : ℚ} (h : 0 ≤ q) : ((truncNat q : ℕ) : ℚ) = (q.floor : ℚ) := by
  have h0 : (0 : ℤ) ≤ q.floor := Rat.le_floor_iff.mpr (by exact_mod_cast h)
  rw [truncNat, ← Int.cast_natCast, Int.toNat_of_nonneg h0]

theorem truncNat_le {q : ℚ} (h : 0 ≤ q) : ((truncNat q : ℕ) : ℚ) ≤ q := by
  rw [truncNat_cast h]; exact Rat.floor_le q

theorem lt_truncNat_add_one (q : ℚ) (h : 0 ≤ q) : q < ((truncNat q : ℕ) : ℚ) + 1 := by
  rw [truncNat_cast h]; exact_mod_cast Rat.floor_lt_iff.mp (Int.lt_succ q.floor)

/-- `B` the base line, `b` the relative brick size, `x` the excursion of the price beyond `B` -/
theorem bricks {B b x : ℚ} (hB : 0 < B) (hb : 0 < b) (hx : B * b ≤ x) :
    1 ≤ truncNat (x / B / b) ∧ B * (b * truncNat (x / B / b)) ≤ x ∧ x < B * (b * (truncNat (x / B / b) + 1)) := by
  have hq1 : 1 ≤ x / B / b := by rwa [le_div_iff₀ hb, le_div_iff₀ hB, one_mul, mul_comm]
  have hq0 : 0 ≤ x / B / b := zero_le_one.trans hq1
  have hx' : x = B * (b * (x / B / b)) := by field_simp
  refine ⟨truncNat_ge_one hq1, ?_, ?_⟩
  · conv_rhs => rw [hx']
    exact mul_le_mul_of_nonneg_left (mul_le_mul_of_nonneg_left (truncNat_le hq0) hb.le) hB.le
  · conv_lhs => rw [hx']
    exact mul_lt_mul_of_pos_left (mul_lt_mul_of_pos_left (lt_truncNat_add_one _ hq0) hb) hB

/-- `1 ≤ truncNat …`: in exact arithmetic the `.max(1)` of the code never acts; it is there against rounding -/
theorem next_up (s : Renko) (c : Candle ℚ) (h : Inv s) (hv : s.next_block_upper ≤ c.source s.src) :
    ∃ o, (s.next c).1 = some o ∧
      1 ≤ truncNat ((c.source s.src - s.last_block_upper) / s.last_block_upper / s.brick_size) ∧
      o.len = truncNat ((c.source s.src - s.last_block_upper) / s.last_block_upper / s.brick_size) ∧
      o.base_line = s.last_block_upper ∧ o.brick_size = s.brick_size ∧
      Inv (s.next c).2 ∧ (s.next c).2.volume = 0 ∧
      c.source s.src < (s.next c).2.next_block_upper ∧
      o.totalVolume = s.volume + c.volume := by
  obtain ⟨hb, hb1, hll, hle, hnu, hnl⟩ := h
  have hlu : 0 < s.last_block_upper := lt_of_lt_of_le hll hle
  obtain ⟨h1, -, hhi⟩ := bricks hlu hb (x := c.source s.src - s.last_block_upper)
    (by rw [hnu, mul_add, mul_one] at hv; exact le_sub_iff_add_le'.2 hv)
  have hn : s.next c = _ := if_pos hv
  rw [hn, max_eq_left h1]
  generalize truncNat _ = n at *
  refine ⟨_, rfl, h1,
    rfl, rfl, rfl,          -- `len`, `base_line`, `brick_size` are fields of the output
    { b_pos := hb, b_lt := hb1, ll_pos := ?ll_pos, le := ?le, nu := rfl, nl := rfl },
    rfl, ?below,            -- the new state sets `volume := 0`
    RenkoOut.totalVolume_share h1 _ _ _⟩
  case ll_pos => exact mul_pos hlu (add_pos_of_pos_of_nonneg one_pos (mul_nonneg hb.le (Nat.cast_nonneg _)))
  case le =>
    exact mul_le_mul_of_nonneg_left
      (add_le_add le_rfl (mul_le_mul_of_nonneg_left (Nat.cast_le.2 (Nat.sub_le n 1)) hb.le)) hlu.le
  case below =>
    show _ < s.last_block_upper * (1 + s.brick_size * (n : ℚ)) * (1 + s.brick_size)
    -- beyond the `n + 1` bricks that bound the price there is the term `B·b·n·b ≥ 0`
    have := mul_nonneg (mul_nonneg (mul_pos hlu hb).le (Nat.cast_nonneg (α := ℚ) n)) hb.le
    linarith only [hhi, this]

theorem next_down (s : Renko) (c : Candle ℚ) (h : Inv s) (hnu' : ¬ s.next_block_upper ≤ c.source s.src)
    (hv : c.source s.src ≤ s.next_block_lower) (hpos : 0 < c.source s.src) :
    ∃ o, (s.next c).1 = some o ∧
      1 ≤ truncNat ((s.last_block_lower - c.source s.src) / s.last_block_lower / s.brick_size) ∧
      o.len = truncNat ((s.last_block_lower - c.source s.src) / s.last_block_lower / s.brick_size) ∧
      o.base_line = s.last_block_lower ∧ o.brick_size = -s.brick_size ∧
      (s.next c).2.last_block_upper = s.last_block_lower * (1 - s.brick_size * ((o.len - 1 : ℕ) : ℚ)) ∧
      (s.next c).2.last_block_lower = s.last_block_lower * (1 - s.brick_size * (o.len : ℚ)) ∧
      c.source s.src ≤ (s.next c).2.last_block_lower ∧
      Inv (s.next c).2 ∧ (s.next c).2.volume = 0 ∧
      o.totalVolume = s.volume + c.volume := by
  obtain ⟨hb, hb1, hll, hle, hnu, hnl⟩ := h
  obtain ⟨h1, hlo, -⟩ := bricks hll hb (x := s.last_block_lower - c.source s.src)
    (by rw [hnl, mul_sub, mul_one] at hv; exact le_sub_comm.1 hv)
  have hn : s.next c = _ := (if_neg hnu').trans (if_pos hv)
  rw [hn, max_eq_left h1]
  generalize truncNat _ = n at *
  -- the new lower bound is still above the (positive) price
  have hge : c.source s.src ≤ s.last_block_lower * (1 - s.brick_size * (n : ℚ)) := by
    rw [mul_sub, mul_one]; exact le_sub_comm.1 hlo
  refine ⟨_, rfl, h1,
    rfl, rfl, rfl,          -- `len`, `base_line`, `brick_size` are fields of the output
    rfl, rfl, hge,          -- `last_block_upper`, `last_block_lower` are fields of the new state
    { b_pos := hb, b_lt := hb1, ll_pos := hpos.trans_le hge, le := ?le, nu := rfl, nl := rfl },
    rfl,                    -- the new state sets `volume := 0`
    RenkoOut.totalVolume_share h1 _ _ _⟩
  case le =>
    exact mul_le_mul_of_nonneg_left
      (sub_le_sub_left (mul_le_mul_of_nonneg_left (Nat.cast_le.2 (Nat.sub_le n 1)) hb.le) 1) hll.le

theorem new_inv (eps brick : ℚ) (src : Source) (c : Candle ℚ) (s : Renko) (he : 0 < eps) (hc : 0 < c.source src)
    (h : Renko.new eps brick src c = .ok s) : Inv s ∧ s.volume = 0 ∧ s.src = src := by
  unfold Renko.new at h
  split at h
  · rename_i hb
    injection h with h
    subst h
    have hb0 : 0 < brick := lt_of_lt_of_le he hb.1
    have hvb := mul_pos hc hb0
    have hh : 0 < c.source src * brick * (1 / 2) := mul_pos hvb (by norm_num)
    refine ⟨{ b_pos := hb0, b_lt := hb.2, ll_pos := ?_, le := ?_, nu := rfl, nl := rfl }, rfl, rfl⟩
    · -- half a brick is less than a brick, which is less than the price
      exact sub_pos.2 ((mul_lt_of_lt_one_right hvb (by norm_num)).trans (mul_lt_of_lt_one_right hc hb.2))
    · exact (sub_le_self _ hh.le).trans (le_add_of_nonneg_right hh.le)
  · cases h

def run : Renko → List (Candle ℚ) → List (Option RenkoOut) × Renko
  | s, [] => ([], s)
  | s, k :: ks => let r := s.next k; let rest := run r.2 ks; (r.1 :: rest.1, rest.2)

theorem run_length (s : Renko) (cs : List (Candle ℚ)) : (run s cs).1.length = cs.length := by
  induction cs generalizing s with
  | nil => rfl
  | cons k ks ih => simp [run, ih]

def emitted (o : Option RenkoOut) : ℚ := match o with | some o => o.totalVolume | none => 0

theorem next_src (s : Renko) (c : Candle ℚ) : (s.next c).2.src = s.src := by
  unfold Renko.next; dsimp only; split_ifs <;> rfl

theorem next_isSome (s : Renko) (c : Candle ℚ) :
    (s.next c).1.isSome ↔ (s.next_block_upper ≤ c.source s.src ∨ c.source s.src ≤ s.next_block_lower) := by
  unfold Renko.next; dsimp only
  split_ifs with hu hl
  · exact iff_of_true rfl (Or.inl hu)
  · exact iff_of_true rfl (Or.inr hl)
  · exact iff_of_false Bool.false_ne_true (not_or.2 ⟨hu, hl⟩)

theorem next_step (s : Renko) (c : Candle ℚ) (h : Inv s) (hpos : 0 < c.source s.src) :
    Inv (s.next c).2 ∧ (s.next c).2.src = s.src ∧
    ((s.next c).1.isSome ↔ (s.next_block_upper ≤ c.source s.src ∨ c.source s.src ≤ s.next_block_lower)) ∧
    (∀ o, (s.next c).1 = some o → 1 ≤ o.len ∧ o.brick_size ≠ 0) ∧
    emitted (s.next c).1 + (s.next c).2.volume = s.volume + c.volume := by
  suffices key : Inv (s.next c).2 ∧ (∀ o, (s.next c).1 = some o → 1 ≤ o.len ∧ o.brick_size ≠ 0) ∧
      emitted (s.next c).1 + (s.next c).2.volume = s.volume + c.volume from
    ⟨key.1, next_src s c, next_isSome s c, key.2⟩
  have emit : ∀ o, (s.next c).1 = some o → 1 ≤ o.len → o.brick_size ≠ 0 → (s.next c).2.volume = 0 →
      o.totalVolume = s.volume + c.volume →
      (∀ o, (s.next c).1 = some o → 1 ≤ o.len ∧ o.brick_size ≠ 0) ∧
        emitted (s.next c).1 + (s.next c).2.volume = s.volume + c.volume := by
    intro o ho h1 hbs hvol htot
    refine ⟨fun o' ho' => ?_, by rw [ho, hvol, emitted, htot, add_zero]⟩
    rw [ho] at ho'; cases ho'; exact ⟨h1, hbs⟩
  by_cases hu : s.next_block_upper ≤ c.source s.src
  · obtain ⟨o, ho, h1, hlen, -, hbs, hinv, hvol, -, htot⟩ := next_up s c h hu
    exact ⟨hinv, emit o ho (hlen ▸ h1) (hbs ▸ h.b_pos.ne') hvol htot⟩
  · by_cases hl : c.source s.src ≤ s.next_block_lower
    · obtain ⟨o, ho, h1, hlen, -, hbs, -, -, -, hinv, hvol, htot⟩ := next_down s c h hu hl hpos
      exact ⟨hinv, emit o ho (hlen ▸ h1) (hbs ▸ (neg_ne_zero.2 h.b_pos.ne')) hvol htot⟩
    · have e : s.next c = (none, { s with volume := s.volume + c.volume }) := by
        simp [Renko.next, hu, hl]
      rw [e]
      -- no field of `Inv` reads `volume`
      exact ⟨⟨h.b_pos, h.b_lt, h.ll_pos, h.le, h.nu, h.nl⟩, fun o ho => (by cases ho), zero_add _⟩

theorem run_from (s : Renko) (hs : Inv s) (cs : List (Candle ℚ)) (hcs : ∀ k ∈ cs, 0 < k.source s.src) :
    Inv (run s cs).2 ∧
    (∀ o ∈ (run s cs).1, ∀ r, o = some r → 1 ≤ r.len) ∧
    ((run s cs).1.map emitted).sum + (run s cs).2.volume = s.volume + (cs.map (·.volume)).sum := by
  induction cs generalizing s with
  | nil => exact ⟨hs, by simp [run], by simp [run]⟩
  | cons k ks ih =>
    obtain ⟨hi', hsrc', _, hlen, hvol⟩ := next_step s k hs (hcs k (by simp))
    obtain ⟨a, b, c⟩ := ih (s.next k).2 hi' (fun x hx => hsrc' ▸ hcs x (by simp [hx]))
    refine ⟨a, ?_, ?_⟩
    · intro o ho r hr
      rcases List.mem_cons.1 ho with rfl | ho
      · exact (hlen r hr).1
      · exact b o ho r hr
    · simp only [run, List.map_cons, List.sum_cons]
      linarith only [hvol, c]

end Renko
end Yata
